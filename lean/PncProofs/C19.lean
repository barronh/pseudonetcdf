import PncModel.Icartt
import PncProofs.ListLemmas
import Mathlib.Data.List.Basic

/-!
# C19 — ICARTT (ffi1001) write/read round trip

`Icartt.write` is the writer, `Icartt.read` the position-driven reader.  For every well-formed file (seven
free-text header lines, every variable with one cell per record) with any number of records, variables and
header attributes: the header-line count declared on line 1 is the position of the column-name line
(`header_count`), the declared number of dependent variables is the number of description lines
(`declared_counts`), reading what was written returns the same names in the same order, units, missing codes,
masks and values (`read_write`, `mask_preserved`), and a second write/read cycle reproduces the data
(`second_cycle`).
-/
namespace Props.C19
open Icartt

/-- lines in the order and at the positions the reader takes them -/
def layout (n : Nat) (head : List String) (iv : String × Option String) (nd sc : Nat)
    (codes : List (String × Rat)) (descs : List (String × String)) (nu : Nat) (attrs : List (String × String))
    (names : List String) (rows : List (List Rat)) : List Line :=
  .first n :: (head.map .text ++ (.indep iv.1 iv.2 :: .count nd :: .scales sc :: .codes codes ::
    (descs.map (fun d => .desc d.1 d.2) ++ (.count 0 :: .count nu ::
      (attrs.map (fun a => .attr a.1 a.2) ++ (.names names :: rows.map .data))))))

theorem write_layout (f : File) :
    write f = layout (f.attrs.length + f.deps.length + 15) f.head (f.indep, wUnit f) f.deps.length f.deps.length
      (f.deps.map (fun v => (v.codeStr, v.code))) (f.deps.map (fun v => (v.name, v.unit))) f.attrs.length f.attrs
      (f.indep :: f.deps.map (·.name))
      ((List.range (nrec f)).map (fun i => f.indepCells.getD i 0 :: f.deps.map (fun v => outCell v (v.cells.getD i none)))) := by
  simp only [write, layout, List.map_map, List.append_assoc, List.cons_append, List.nil_append, Function.comp_def]
  rfl

/-- the reader's positions, counted from the segment starts -/
theorem positions (a c : Nat) :
    13 + c = 12 + c + 1 ∧ 14 + c = 12 + c + 2 ∧ a + c + 15 - 1 = 12 + c + 2 + a ∧
    a + c + 15 = 12 + c + 2 + a + 1 ∧ a + c + 15 - 1 - (14 + c) = a := by
  omega

section
variable {n : Nat} {head : List String} {iv : String × Option String} {nd sc : Nat}
  {codes : List (String × Rat)} {descs : List (String × String)} {nu : Nat} {attrs : List (String × String)}
  {names : List String} {rows : List (List Rat)}

theorem layout_drop (h7 : head.length = 7) (hd : descs.length = codes.length) {ls : List Line}
    (hls : ls = layout n head iv nd sc codes descs nu attrs names rows) :
    ls.drop 1 = head.map .text ++ ls.drop 8 ∧
    ls.drop 8 = .indep iv.1 iv.2 :: .count nd :: .scales sc :: .codes codes :: ls.drop 12 ∧
    ls.drop 12 = descs.map (fun d => .desc d.1 d.2) ++ ls.drop (12 + codes.length) ∧
    ls.drop (12 + codes.length) = .count 0 :: .count nu :: ls.drop (12 + codes.length + 2) ∧
    ls.drop (12 + codes.length + 2) =
      attrs.map (fun a => .attr a.1 a.2) ++ ls.drop (12 + codes.length + 2 + attrs.length) ∧
    ls.drop (12 + codes.length + 2 + attrs.length) = .names names :: rows.map .data := by
  have lH : (head.map Line.text).length = 7 := by rw [List.length_map, h7]
  have lD : (descs.map fun d => Line.desc d.1 d.2).length = codes.length := by rw [List.length_map, hd]
  have lA : (attrs.map fun a => Line.attr a.1 a.2).length = attrs.length := List.length_map _
  have c1 : ls.drop 1 = head.map Line.text ++ _ := congrArg (List.drop 1) hls
  have c8 : ls.drop 8 = _ := (List.drop_of_drop c1 7).trans (List.drop_left' lH)
  have c12 : ls.drop 12 = descs.map (fun d => Line.desc d.1 d.2) ++ _ := List.drop_of_drop c8 4
  have c12' : ls.drop (12 + codes.length) = _ := (List.drop_of_drop c12 codes.length).trans (List.drop_left' lD)
  have c14 : ls.drop (12 + codes.length + 2) = attrs.map (fun a => Line.attr a.1 a.2) ++ _ := List.drop_of_drop c12' 2
  have cN : ls.drop (12 + codes.length + 2 + attrs.length) = _ :=
    (List.drop_of_drop c14 attrs.length).trans (List.drop_left' lA)
  exact ⟨c8 ▸ c1, c12 ▸ c8, c12' ▸ c12, c14 ▸ c12', cN ▸ c14, cN⟩

/-- the declared numbers of variables, scales and comments (`nd`, `sc`, `nu`) are not looked at -/
theorem read_layout (hN : n = attrs.length + codes.length + 15) (h7 : head.length = 7)
    (hd : descs.length = codes.length) (hn : names.length = codes.length + 1)
    (hr : ∀ r ∈ rows, r.length = names.length) :
    read (layout n head iv nd sc codes descs nu attrs names rows) =
      some { head := head, indep := iv.1, indepUnit := some (rUnit iv.1 iv.2),
             indepCells := rows.map (fun r => r.getD 0 0),
             deps := mkDeps (names.map subName) codes descs rows, attrs := attrs } := by
  subst hN
  generalize hls : layout _ head iv nd sc codes descs nu attrs names rows = ls
  obtain ⟨c1, c8, c12, c12', c14, cN⟩ := layout_drop h7 hd hls.symm
  obtain ⟨i13, i14, iN, iR, iA⟩ := positions attrs.length codes.length
  have e0 : getFirst ls[0]? = some (attrs.length + codes.length + 15) := by rw [← hls]; rfl
  have e1 : (List.range 7).mapM (fun i => getText ls[i + 1]?) = some head := by
    simpa only [Nat.add_comm, h7] using List.mapM_block getText Line.text (fun _ => rfl) c1
  have e8 : getIndep ls[8]? = some iv := congrArg getIndep (List.getElem?_of_drop c8 0)
  have e9 : getCount ls[9]? = some nd := congrArg getCount (List.getElem?_of_drop c8 1)
  have e10 : getScales ls[10]? = some sc := congrArg getScales (List.getElem?_of_drop c8 2)
  have e11 : getCodes ls[11]? = some codes := congrArg getCodes (List.getElem?_of_drop c8 3)
  have e12 : (List.range codes.length).mapM (fun i => getDesc ls[12 + i]?) = some descs := by
    simpa only [hd] using List.mapM_block getDesc (fun d => Line.desc d.1 d.2) (fun _ => rfl) c12
  have e13 : getCount ls[12 + codes.length]? = some 0 := congrArg getCount (List.getElem?_of_drop c12' 0)
  have e14 : getCount ls[13 + codes.length]? = some nu := i13 ▸ congrArg getCount (List.getElem?_of_drop c12' 1)
  have e15 : (List.range (attrs.length + codes.length + 15 - 1 - (14 + codes.length))).mapM
      (fun i => getAttr ls[14 + codes.length + i]?) = some attrs := by
    rw [iA, i14]
    exact List.mapM_block getAttr (fun a => Line.attr a.1 a.2) (fun _ => rfl) c14
  have eN : getNames ls[attrs.length + codes.length + 15 - 1]? = some names :=
    iN ▸ congrArg getNames (List.getElem?_of_drop cN 0)
  have eR : (ls.drop (attrs.length + codes.length + 15)).mapM getData = some rows := by
    rw [iR, List.drop_of_drop cN 1, List.drop_one, List.tail_cons, List.mapM_map]
    exact (List.mapM_some _ fun _ _ => rfl).trans (by rw [List.map_id'])
  have hany : ¬rows.any (fun r => decide (r.length ≠ names.length)) = true := fun h => by
    obtain ⟨r, hm, hd⟩ := List.any_eq_true.mp h
    exact of_decide_eq_true hd (hr r hm)
  -- the reader's `do` block, one line at a time (`simp only [read, e0, …]` closes the goal too, at many times the
  -- cost: it simplifies the rest of the block again after every line)
  rw [Icartt.read, Option.bind_of_eq e0, Option.bind_of_eq e1, Option.bind_of_eq e8, Option.bind_of_eq e9,
    Option.bind_of_eq e10, Option.bind_of_eq e11, Option.bind_of_eq e12, Option.bind_of_eq e13,
    if_neg (fun h => h rfl), Option.bind_of_eq e14, Option.bind_of_eq e15, Option.bind_of_eq eN,
    Option.bind_of_eq eR, if_neg (fun h => h hn), if_neg hany]
  rfl

end

/-- **the declared header length is where the column names are**, for any numbers of variables and
attributes: line `n_header_lines` (1-based) is the name line and everything after it is data -/
theorem header_count (f : File) (h7 : f.head.length = 7) :
    getFirst (write f)[0]? = some (f.attrs.length + f.deps.length + 15) ∧
    (write f)[(f.attrs.length + f.deps.length + 15) - 1]? = some (.names (f.indep :: f.deps.map (·.name))) ∧
    (write f).drop (f.attrs.length + f.deps.length + 15) = (List.range (nrec f)).map (dataLine f) := by
  obtain ⟨-, -, -, -, -, cN⟩ := layout_drop h7 (by simp) (write_layout f)
  obtain ⟨-, -, iN, iR, -⟩ := positions f.attrs.length f.deps.length
  rw [List.length_map] at cN
  refine ⟨rfl, iN ▸ List.getElem?_of_drop cN 0, ?_⟩
  rw [iR, List.drop_of_drop cN 1, List.drop_one, List.tail_cons, List.map_map]
  rfl

/-- **declared counts equal actual ones**: line 10 holds the number of description lines that follow line 12,
line 12 has one code per variable, and the user-comment count is the number of attribute lines -/
theorem declared_counts (f : File) (h7 : f.head.length = 7) :
    (write f)[9]? = some (.count f.deps.length) ∧
    (write f)[11]? = some (.codes (f.deps.map (fun v => (v.codeStr, v.code)))) ∧
    (∀ i (hi : i < f.deps.length), (write f)[12 + i]? = some (.desc f.deps[i].name f.deps[i].unit)) ∧
    (write f)[12 + f.deps.length]? = some (.count 0) ∧
    (write f)[13 + f.deps.length]? = some (.count f.attrs.length) ∧
    (∀ i (hi : i < f.attrs.length), (write f)[14 + f.deps.length + i]? = some (.attr f.attrs[i].1 f.attrs[i].2)) := by
  obtain ⟨-, c8, c12, c12', c14, -⟩ := layout_drop h7 (by simp) (write_layout f)
  obtain ⟨i13, i14, -, -, -⟩ := positions f.attrs.length f.deps.length
  rw [List.length_map] at c12 c12' c14
  refine ⟨List.getElem?_of_drop c8 1, List.getElem?_of_drop c8 3, fun i hi => ?_, List.getElem?_of_drop c12' 0,
    i13 ▸ List.getElem?_of_drop c12' 1, fun i hi => ?_⟩
  · rw [List.getElem?_of_drop c12 i, List.getElem?_append_left (by simpa using hi)]
    simp [hi]
  · rw [i14, List.getElem?_of_drop c14 i, List.getElem?_append_left (by simpa using hi)]
    simp [hi]

/-- the cell read back for a written cell: missing iff it was missing, provided an unmasked value is not
the code itself -/
theorem mask_preserved (v : DVar) (c : Option Rat) (h : c ≠ some v.code) : inCell v.code (outCell v c) = c := by
  cases c with
  | none => simp [outCell, inCell]
  | some x =>
    have : x ≠ v.code := fun e => h (by rw [e])
    simp [outCell, inCell, this]

/-- well-formed: seven free-text lines, one cell per record in every variable, no unmasked value equal to
the variable's missing code -/
structure WF (f : File) : Prop where
  head : f.head.length = 7
  cells : ∀ v ∈ f.deps, v.cells.length = nrec f
  nocoll : ∀ v ∈ f.deps, ∀ c ∈ v.cells, c ≠ some v.code

/-- what a reader returns: '/' in column names replaced, the independent variable's unit defaulting to its
name -/
def normalize (f : File) : File :=
  { f with indepUnit := some (rUnit f.indep (wUnit f)),
           deps := f.deps.map (fun v => { v with name := subName v.name }) }

theorem column_back (v : DVar) (h : ∀ c ∈ v.cells, c ≠ some v.code) :
    (List.range v.cells.length).map (fun i => inCell v.code (outCell v (v.cells[i]?.getD none))) = v.cells := by
  conv_rhs => rw [← List.range_map_getD v.cells none]
  refine List.map_congr_left fun i hi => mask_preserved v _ ?_
  have hi' := List.mem_range.mp hi
  rw [List.getElem?_eq_getElem hi']
  exact h _ (List.getElem_mem hi')

theorem mkDeps_columns (n0 : String) (x : Nat → Rat) (deps : List DVar) (n : Nat)
    (hc : ∀ v ∈ deps, v.cells.length = n) (hno : ∀ v ∈ deps, ∀ c ∈ v.cells, c ≠ some v.code) :
    mkDeps ((n0 :: deps.map (·.name)).map subName) (deps.map (fun v => (v.codeStr, v.code)))
      (deps.map (fun v => (v.name, v.unit)))
      ((List.range n).map (fun i => x i :: deps.map (fun v => outCell v (v.cells.getD i none)))) =
    deps.map (fun v => { v with name := subName v.name }) := by
  apply List.ext_getElem (by rw [mkDeps, List.length_map, List.length_range, List.length_map, List.length_map])
  intro j h1 h2
  have hj : j < deps.length := by rwa [List.length_map] at h2
  have hv := List.getElem_mem hj
  simp only [mkDeps, List.getElem_map, List.getElem_range, List.map_map, Function.comp_def, List.map_cons,
    List.getD_eq_getElem?_getD, List.getElem?_cons_succ, List.getElem?_map, List.getElem?_eq_getElem hj,
    Option.map_some, Option.getD_some]
  rw [← hc _ hv, column_back _ (hno _ hv)]

/-- **reading what was written**: for every well-formed file, `read (write f)` is the file itself — same
header lines, names in the same order, units, missing codes (spelling and value), masks and values, and the
same attributes — up to the two normalisations of `normalize`. -/
theorem read_write (f : File) (h : WF f) : read (write f) = some (normalize f) := by
  rw [write_layout, read_layout (by rw [List.length_map]) h.head (by rw [List.length_map, List.length_map])
      (by rw [List.length_cons, List.length_map, List.length_map])
      (fun r hr => by
        obtain ⟨i, -, rfl⟩ := List.mem_map.mp hr
        rw [List.length_cons, List.length_cons, List.length_map, List.length_map]),
    List.map_map, mkDeps_columns _ _ _ _ h.cells h.nocoll]
  exact congrArg (fun c => some { normalize f with indepCells := c }) (List.range_map_getD f.indepCells 0)

theorem wf_normalize (f : File) (h : WF f) : WF (normalize f) :=
  ⟨h.head, List.forall_mem_map.mpr h.cells, List.forall_mem_map.mpr h.nocoll⟩

/-- **a second write/read cycle changes no data**: what is read from a file written from the first reading
has the same values, masks, missing codes and units -/
theorem second_cycle (f : File) (h : WF f) :
    ∃ g g', Icartt.read (write f) = some g ∧ Icartt.read (write g) = some g' ∧
      g'.indepCells = g.indepCells ∧ g'.deps.map (·.cells) = g.deps.map (·.cells) ∧
      g'.deps.map (·.code) = g.deps.map (·.code) ∧ g'.deps.map (·.unit) = g.deps.map (·.unit) ∧
      g'.deps.map (·.codeStr) = g.deps.map (·.codeStr) := by
  refine ⟨normalize f, normalize (normalize f), read_write f h, read_write _ (wf_normalize f h), ?_⟩
  simp [normalize, List.map_map, Function.comp_def]

/-- the hypotheses are met by a real file: two records, two variables (one name with '/'), a missing cell,
one attribute -/
def exFile : File :=
  { head := ["Doe, Jane", "Org", "Src", "Mission", "1, 1", "2019, 07, 04 2020, 01, 02", "60"],
    indep := "Start_UTC", indepUnit := some "s", indepCells := [3600, 3660],
    deps := [⟨"O3", "ppbv", "-9999", -9999, [some (3/2), none]⟩, ⟨"Alt/m", "m", "-99999999", -99999999, [some 0, some 1234567]⟩],
    attrs := [("PLATFORM", "DC8")] }

theorem exFile_wf : WF exFile :=
  ⟨rfl, by decide +kernel, by decide +kernel⟩

example : Icartt.read (write exFile) = some (normalize exFile) := read_write exFile exFile_wf

/-- **the reader is driven by the declared count**: if the first line declared one line less than the writer
produced, the reader would look for the column names on an attribute line and fail — the count is not
redundant information. -/
theorem wrong_count_rejected :
    Icartt.read ((Line.first 17) :: (write exFile).tail) = none ∧
    Icartt.read (write exFile) ≠ none := by
  constructor
  · decide +kernel
  · rw [read_write exFile exFile_wf]; simp

end Props.C19
