import PncProofs.CamxLemmas
import PncProofs.UamivLemmas
import PncProofs.SlabReadLemmas
import PncProofs.UamivReadLemmas
import PncProofs.WindRecLemmas
/-
C13 — memory-mapped and record-based CAMx readers agree.

Slab formats (one3d / humidity / vertical diffusivity, temperature, height/pressure).  The file carries no counts:
`Slab.mmDecode` is the memory-mapped reader's inference (records of `cells + 4` words, slabs per step from the first
change of (time, date)), `Slab.viewOf` is the content the file was written from.  `mm_decode_encode` proves that the two
are the same for every well-formed file of at least two time steps, any grid size, layer count and payload, for all
three layouts.  Well-formed (`WF`): every slab has `f.cells` words, all steps have the same number ≥ 1 of slabs, and
the second step has another (time, date) than the first: the layer count is inferred from that change.
`single_step_rejected` shows why one-step files are outside the domain: no record differs from the first, the
inference has nothing to go on.  The record readers (`SlabRead`) navigate by time arithmetic: on a file with
a regular time axis (`Regular`, which `ReadWF` and `TempWF` provide) they present the written content
(`read_decode_encode`, `read_temp_decode_encode`), hence what the memory-mapped readers present (`readers_agree`,
`readers_agree_temperature`).

Gridded average / instant files: both readers present the same words for every file with standard headers
(`uamiv_readers_agree_words`) and the written content for an encoded one (`uamiv_read_encode`; the memory-mapped side is
`Camx.decodeMM_encode`, proved for C08/C09).

Wind files: both readers present the written content (`wind_readers_agree`, `wind_readers_agree_one`).

Every set of hypotheses is met by an example file; on all but `exTemp` the reader model is run.
-/
namespace Props.C13
open Slab Words

structure WF (f : SFile) : Prop where
  cells : ∀ s ∈ f.steps, ∀ c ∈ s.slabs, c.length = f.cells
  same : ∀ s ∈ f.steps, ∀ s' ∈ f.steps, s.slabs.length = s'.slabs.length
  two : ∃ s0 s1 rest, f.steps = s0 :: s1 :: rest ∧ (s1.time, s1.date) ≠ (s0.time, s0.date) ∧
    1 ≤ s0.slabs.length

def framedStep (s : Step) : List (List Word) := (stepRows s).map frame

theorem encode_eq (f : SFile) : encode f = ((f.steps.map framedStep).flatten).flatten := by
  simp only [encode, encodeRecs, rows, List.map_flatten, List.map_map]
  rfl

theorem framedStep_cons {s : Step} {c : List Word} {cs : List (List Word)} (h : s.slabs = c :: cs) :
    framedStep s = frame (s.time :: s.date :: c) :: cs.map (fun c => frame (s.time :: s.date :: c)) := by
  rw [framedStep, stepRows, h, List.map_cons, List.map_cons, List.map_map]
  rfl

theorem mem_rows {f : SFile} {r : List Word} (hr : r ∈ (f.steps.map framedStep).flatten) :
    ∃ s ∈ f.steps, ∃ c ∈ s.slabs, r = frame (s.time :: s.date :: c) := by
  obtain ⟨fs, hfs, hr'⟩ := List.mem_flatten.mp hr
  obtain ⟨s, hs, rfl⟩ := List.mem_map.mp hfs
  simp only [framedStep, stepRows, List.map_map, List.mem_map, Function.comp] at hr'
  obtain ⟨c, hc, rfl⟩ := hr'
  exact ⟨s, hs, c, hc, rfl⟩

theorem rows_uniform (f : SFile) (hc : ∀ s ∈ f.steps, ∀ c ∈ s.slabs, c.length = f.cells) :
    ∀ r ∈ (f.steps.map framedStep).flatten, r.length = f.cells + 4 := by
  intro r hr
  obtain ⟨s, hs, c, hc', rfl⟩ := mem_rows hr
  rw [frame_length, List.length_cons, List.length_cons, hc s hs c hc']

theorem steps_uniform {steps : List Step} {m : Nat} (hm : ∀ s ∈ steps, s.slabs.length = m) :
    ∀ b ∈ steps.map framedStep, b.length = m := by
  intro b hb
  obtain ⟨s, hs, rfl⟩ := List.mem_map.mp hb
  rw [framedStep, List.length_map, stepRows, List.length_map, hm s hs]

theorem encode_length (f : SFile) (hc : ∀ s ∈ f.steps, ∀ c ∈ s.slabs, c.length = f.cells) :
    (encode f).length = ((f.steps.map framedStep).flatten).length * (f.cells + 4) := by
  rw [encode_eq, List.length_flatten_uniform (rows_uniform f hc)]

theorem encode_whole (f : SFile) (hc : ∀ s ∈ f.steps, ∀ c ∈ s.slabs, c.length = f.cells) :
    (encode f).length % (f.cells + 4) = 0 := by
  rw [encode_length f hc, Nat.mul_mod_left]

theorem framed_rows_length {steps : List Step} {m : Nat} (hm : ∀ s ∈ steps, s.slabs.length = m) :
    ((steps.map framedStep).flatten).length = m * steps.length := by
  rw [List.length_flatten_uniform (steps_uniform hm), List.length_map, Nat.mul_comm]

theorem recCells_framedStep (s : Step) : (framedStep s).map recCells = s.slabs := by
  simp only [framedStep, stepRows, List.map_map]
  conv_rhs => rw [← List.map_id s.slabs]
  apply List.map_congr_left
  intro c _
  simp [Function.comp, recCells_frame]

/-- step A: cutting the file into records of `cells + 4` words gives back the framed records -/
theorem chunk_records (f : SFile) (h : WF f) :
    chunk (f.cells + 4) (encode f) (encode f).length = (f.steps.map framedStep).flatten := by
  rw [encode_eq]
  exact chunk_flatten (f.cells + 4) (Nat.succ_pos _) _ _ (rows_uniform f h.cells) (Nat.le_refl _)

/-- step B: the first change of (time, date) is after exactly one step's slabs -/
theorem leading_eq (f : SFile) (h : WF f) (s0 s1 : Step) (rest : List Step)
    (hst : f.steps = s0 :: s1 :: rest) (hne : (s1.time, s1.date) ≠ (s0.time, s0.date)) (hm : 1 ≤ s0.slabs.length) :
    leading ((f.steps.map framedStep).flatten) = s0.slabs.length := by
  have h1 : 1 ≤ s1.slabs.length := Nat.le_trans hm (Nat.le_of_eq
    (h.same s0 (hst ▸ List.mem_cons_self) s1 (hst ▸ List.mem_cons_of_mem _ List.mem_cons_self)))
  obtain ⟨c0, cs0, hc0⟩ := List.exists_cons_of_length_pos hm
  obtain ⟨c1, cs1, hc1⟩ := List.exists_cons_of_length_pos h1
  rw [hst, List.map_cons, List.map_cons, List.flatten_cons, List.flatten_cons, framedStep_cons hc0, framedStep_cons hc1,
    List.cons_append, List.cons_append,
    leading_run _ _ _ _ (fun z hz => by
      obtain ⟨c, -, rfl⟩ := List.mem_map.mp hz
      rw [recTD_frame, recTD_frame]) (by rw [recTD_frame, recTD_frame]; exact hne),
    List.length_map, hc0, List.length_cons, Nat.add_comm]

/-- **the memory-mapped readers recover the content** (C13, slab formats): for every well-formed file with at
least two time steps — any grid size, any number of layers, any payload — what the memory-mapped reader infers
from record sizes and (time, date) changes is exactly the content the file was written from, i.e. what a
record-by-record reader presents: the same number of steps and layers, the same time flags and the same cells
of every variable. -/
theorem mm_decode_encode (k : Kind) (f : SFile) (h : WF f) :
    mmDecode k f.cells (encode f) = viewOf k f := by
  obtain ⟨s0, s1, rest, hst, hne, hm⟩ := h.two
  have hsame : ∀ s ∈ f.steps, s.slabs.length = s0.slabs.length :=
    fun s hs => h.same s hs s0 (hst ▸ List.mem_cons_self)
  unfold mmDecode
  have hwhole : ¬ ((encode f).length % (f.cells + 4) ≠ 0) := not_not_intro (encode_whole f h.cells)
  rw [if_neg hwhole, chunk_records f h]
  unfold mmRows
  simp only
  rw [leading_eq f h s0 s1 rest hst hne hm]
  have hlen := framed_rows_length hsame
  have hnsteps : f.steps.length = rest.length + 2 := by rw [hst]; rfl
  -- the record count is a proper multiple of the slabs per step, and every record is framed
  have g1 : ¬ (s0.slabs.length = 0 ∨ s0.slabs.length = ((f.steps.map framedStep).flatten).length ∨
      ((f.steps.map framedStep).flatten).length % s0.slabs.length ≠ 0) := by
    rw [hlen, hnsteps]
    rintro (h0 | h1 | h2)
    · exact Nat.ne_of_gt hm h0
    · exact Nat.ne_of_lt ((Nat.lt_mul_iff_one_lt_right hm).mpr (Nat.le_add_left 2 rest.length)) h1
    · exact h2 (Nat.mul_mod_right _ _)
  rw [if_neg g1]
  have g2 : ¬ (k ≠ Kind.one3d ∧ ((f.steps.map framedStep).flatten).any (fun r => r.head? ≠ r.getLast?) = true) := by
    intro ⟨_, hany⟩
    rw [List.any_eq_true] at hany
    obtain ⟨r, hr, hbad⟩ := hany
    obtain ⟨s, -, c, -, rfl⟩ := mem_rows hr
    exact of_decide_eq_true hbad (frame_markers _)
  rw [if_neg g2]
  -- step C: regroup the records into steps
  have hchunk : chunk s0.slabs.length ((f.steps.map framedStep).flatten) ((f.steps.map framedStep).flatten).length =
      f.steps.map framedStep :=
    chunk_flatten s0.slabs.length hm _ _ (steps_uniform hsame) (Nat.le_refl _)
  rw [hchunk]
  -- step D: the view
  have hflags : (f.steps.map framedStep).map (fun s => ((recTD (s.headD [])).2, (recTD (s.headD [])).1)) =
      f.steps.map (fun s => (s.date, s.time)) := by
    rw [List.map_map]
    refine List.map_congr_left fun s hs => ?_
    obtain ⟨c, cs, hsl⟩ := List.exists_cons_of_length_pos (Nat.le_trans hm (Nat.le_of_eq (hsame s hs).symm))
    simp only [Function.comp, framedStep_cons hsl, List.headD_cons, recTD_frame]
  rw [viewOf_cons k hst, hflags, List.length_map, hst, List.map_cons]
  simp only [List.foldl_map, recCells_framedStep]

/-- the hypotheses are met: a 2-step temperature file with two layers and two cells per slab -/
def exFile : SFile :=
  { cells := 2, steps := [⟨0, 2001, [[1, 2], [3, 4], [5, 6]]⟩, ⟨1120403456, 2001, [[7, 8], [9, 10], [11, 12]]⟩] }

theorem exFile_wf : WF exFile :=
  ⟨by decide, by decide, ⟨_, _, _, rfl, by decide, by decide⟩⟩

example : (mmDecode .temperature 2 (encode exFile)).map (fun v => (v.nt, v.nz, v.vars)) =
    some (2, 2, [("SURFTEMP", [[1, 2], [7, 8]]), ("AIRTEMP", [[3, 4], [5, 6], [9, 10], [11, 12]])]) := by
  have := mm_decode_encode .temperature exFile exFile_wf
  rw [show exFile.cells = 2 from rfl] at this
  rw [this]
  rfl

/-- **one-step files are outside the domain**: no record differs from the first one, so the reader has nothing
to infer the layer count from — the model (like `one3d`, which raises IndexError) rejects the file -/
theorem single_step_rejected :
    mmDecode .one3d 2 (encode { cells := 2, steps := [⟨0, 2001, [[1, 2], [3, 4]]⟩] }) = none := by rfl

/-! ### the record-based readers of the slab formats

A time axis is regular when every step's time is the previous one's plus the same step, at most a day, by the readers'
own `timeadd`. -/
open SlabRead

/-- a file the record readers are meant for: `L` layers (`2 L` slabs per step for height/pressure), at least two
steps, and a regular time axis from `start` in steps of `step` (HHMM units, an even number, at most 2400) -/
structure ReadWF (hp : Bool) (f : SFile) (L : Nat) (start : DT) (step : Int) : Prop where
  cells : ∀ s ∈ f.steps, ∀ c ∈ s.slabs, c.length = f.cells
  slabs : ∀ s ∈ f.steps, s.slabs.length = L * (if hp then 2 else 1)
  layers : 1 ≤ L
  two : 2 ≤ f.steps.length
  t0 : 0 ≤ start.2 ∧ start.2 < 2400
  stepOk : 0 < step ∧ step ≤ 2400
  even : step % 2 = 0
  axis : ∀ (i : Nat) (h : i < f.steps.length),
    (((f.steps[i].date : Nat) : Int), truncF32 f.steps[i].time) = iter start step i

/-- a temperature file the record reader is meant for: a surface slab and `L` layer slabs per step, a regular time
axis -/
structure TempWF (f : SFile) (L : Nat) (start : DT) (step : Int) : Prop where
  cells : ∀ s ∈ f.steps, ∀ c ∈ s.slabs, c.length = f.cells
  slabs : ∀ s ∈ f.steps, s.slabs.length = L + 1
  layers : 1 ≤ L
  two : 2 ≤ f.steps.length
  t0 : 0 ≤ start.2 ∧ start.2 < 2400
  stepOk : 0 < step ∧ step ≤ 2400
  even : step % 2 = 0
  axis : ∀ (i : Nat) (h : i < f.steps.length),
    (((f.steps[i].date : Nat) : Int), truncF32 f.steps[i].time) = iter start step i

/-- the cells of slab `j` of step `i` -/
def slabAt (f : SFile) (i j : Nat) : List Word := ((f.steps[i]?).bind (·.slabs[j]?)).getD []

/-- what the record readers of all three layouts need -/
structure Regular (f : SFile) (m : Nat) (start : DT) (step : Int) : Prop where
  cells : ∀ s ∈ f.steps, ∀ c ∈ s.slabs, c.length = f.cells
  slabs : ∀ s ∈ f.steps, s.slabs.length = m
  one : 1 ≤ m
  two : 2 ≤ f.steps.length
  axis : Axis start step
  time : ∀ (i : Nat) (h : i < f.steps.length),
    (((f.steps[i].date : Nat) : Int), truncF32 f.steps[i].time) = iter start step i

theorem ReadWF.regular {hp : Bool} {f : SFile} {L : Nat} {start : DT} {step : Int} (h : ReadWF hp f L start step) :
    Regular f (L * (if hp then 2 else 1)) start step :=
  ⟨h.cells, h.slabs, Nat.mul_pos h.layers (by cases hp <;> decide), h.two, ⟨h.t0, h.stepOk⟩, h.axis⟩

theorem TempWF.regular {f : SFile} {L : Nat} {start : DT} {step : Int} (h : TempWF f L start step) :
    Regular f (L + 1) start step :=
  ⟨h.cells, h.slabs, Nat.succ_pos _, h.two, ⟨h.t0, h.stepOk⟩, h.axis⟩

section
variable {f : SFile} {m : Nat} {start : DT} {step : Int}

theorem Regular.table (h : Regular f m start step) :
    Table ((f.steps.map framedStep).flatten) f.steps.length m start step (slabAt f) := by
  have hm := steps_uniform h.slabs
  refine ⟨h.axis, ?_, ?_⟩
  · rw [framed_rows_length h.slabs, Nat.mul_comm]
  · intro i j hi hj
    rw [List.getElem?_flatten_uniform hm i j hj]
    have hsi : f.steps[i]? = some f.steps[i] := List.getElem?_eq_getElem hi
    have hjs : j < (f.steps[i]).slabs.length := by rw [h.slabs _ (List.getElem_mem hi)]; exact hj
    refine ⟨frame (f.steps[i].time :: f.steps[i].date :: (f.steps[i]).slabs[j]), ?_, ?_, ?_⟩
    · simp only [List.getElem?_map, hsi, Option.map_some, Option.bind_some, framedStep, stepRows,
        List.getElem?_eq_getElem hjs]
    · rw [recDT_frame]
      exact h.time i hi
    · rw [recCells_frame]
      simp only [slabAt, hsi, List.getElem?_eq_getElem hjs, Option.bind_some, Option.getD_some]

theorem Regular.wf (h : Regular f m start step) : WF f := by
  refine ⟨h.cells, fun s hs s' hs' => by rw [h.slabs s hs, h.slabs s' hs'], ?_⟩
  have h2 := h.two
  match hst : f.steps with
  | [] =>
    rw [hst] at h2
    simp at h2
  | [_] =>
    rw [hst] at h2
    simp at h2
  | s0 :: s1 :: rest =>
    refine ⟨s0, s1, rest, rfl, ?_, by rw [h.slabs s0 (hst ▸ List.mem_cons_self)]; exact h.one⟩
    intro heq
    have a0 := h.time 0 (Nat.lt_of_lt_of_le Nat.two_pos h2)
    have a1 := h.time 1 h2
    simp only [hst, List.getElem_cons_zero, List.getElem_cons_succ] at a0 a1
    refine Nat.one_ne_zero (h.axis.inj ?_)
    rw [← a0, ← a1]
    simp only [Prod.mk.injEq] at heq
    rw [heq.1, heq.2]

/-- the record size the readers take from the first marker -/
theorem Regular.head (h : Regular f m start step) : (encode f).headD 0 / 4 - 2 = f.cells := by
  obtain ⟨s0, s1, rest, hst, _, hm⟩ := h.wf.two
  obtain ⟨c0, cs, hc0⟩ := List.exists_cons_of_length_pos hm
  have hlen : c0.length = f.cells := h.cells s0 (hst ▸ List.mem_cons_self) c0 (by rw [hc0]; simp)
  rw [encode_eq, hst, List.map_cons, List.flatten_cons, framedStep_cons hc0, List.cons_append, List.flatten_cons,
    headD_frame, List.length_cons, List.length_cons, hlen, Nat.mul_div_cancel_left _ (Nat.succ_pos 3)]
  rfl

theorem Regular.chunk (h : Regular f m start step) :
    chunk ((encode f).headD 0 / 4 - 2 + 4) (encode f) (encode f).length = (f.steps.map framedStep).flatten ∧
    ¬ (encode f).length % ((encode f).headD 0 / 4 - 2 + 4) ≠ 0 := by
  rw [h.head]
  exact ⟨chunk_records f h.wf, not_not_intro (encode_whole f h.cells)⟩

theorem Regular.times (h : Regular f m start step) :
    f.steps.map (fun s => (((s.date : Nat) : Int), truncF32 s.time)) = (List.range f.steps.length).map (iter start step) := by
  apply List.ext_getElem
  · simp
  · intro i h1 h2
    simp only [List.length_map] at h1
    simp only [List.getElem_map, List.getElem_range]
    exact h.time i h1

end

theorem slabs_table (f : SFile) (L : Nat) (g : Nat → Nat) (sel : List (List Word) → List (List Word))
    (hsel : ∀ s ∈ f.steps, sel s.slabs = (List.range L).map (fun k => (s.slabs[g k]?).getD [])) :
    (List.range f.steps.length).flatMap (fun i => (List.range L).map (fun k => slabAt f i (g k))) =
      f.steps.flatMap (fun s => sel s.slabs) := by
  have := List.range_flatMap_getElem? (fun o : Option Step => (List.range L).map (fun k => ((o.bind (·.slabs[g k]?)).getD []))) f.steps
  simp only [slabAt]
  rw [this]
  exact List.flatMap_congr_left fun s hs => (hsel s hs).symm

theorem slabs_table_all (f : SFile) (L : Nat) (hsl : ∀ s ∈ f.steps, s.slabs.length = L) :
    (List.range f.steps.length).flatMap (fun i => (List.range L).map (fun k => slabAt f i k)) =
      f.steps.flatMap (·.slabs) :=
  slabs_table f L (fun k => k) id fun s hs => by rw [id, ← hsl s hs, List.range_map_getD]

theorem slabs_table_every2 (f : SFile) (L v : Nat) (hv : v < 2) (hsl : ∀ s ∈ f.steps, s.slabs.length = L * 2) :
    (List.range f.steps.length).flatMap (fun i => (List.range L).map (fun k => slabAt f i (k * 2 + v))) =
      f.steps.flatMap (fun s => pickEvery v 2 s.slabs) :=
  slabs_table f L (fun k => k * 2 + v) (pickEvery v 2) fun s hs => pickEvery_two v hv L s.slabs (hsl s hs)

theorem slabs_table_take1 (f : SFile) (hsl : ∀ s ∈ f.steps, 1 ≤ s.slabs.length) :
    (List.range f.steps.length).map (fun i => slabAt f i 0) = f.steps.flatMap (fun s => s.slabs.take 1) := by
  rw [← slabs_table f 1 (fun _ => 0) (List.take 1) fun s hs => by
    cases hc : s.slabs with
    | nil =>
      have := hsl s hs
      rw [hc] at this
      cases this
    | cons c cs => rfl]
  exact List.map_eq_flatMap

theorem slabs_table_drop1 (f : SFile) (L : Nat) (hsl : ∀ s ∈ f.steps, s.slabs.length = L + 1) :
    (List.range f.steps.length).flatMap (fun i => (List.range L).map (fun k => slabAt f i (1 + k))) =
      f.steps.flatMap (fun s => s.slabs.drop 1) :=
  slabs_table f L (fun k => 1 + k) (List.drop 1) fun s hs => by
    have hl : (s.slabs.drop 1).length = L := by rw [List.length_drop, hsl s hs]; rfl
    conv_lhs => rw [← List.range_map_getD (s.slabs.drop 1) [], hl]
    exact List.map_congr_left fun k _ => by rw [List.getElem?_drop]

section
variable {f : SFile} {L : Nat} {start : DT} {step : Int}

/-- the step need be even only where the reader looks at it -/
theorem Regular.read_decode_encode {hp : Bool} (r : Regular f (L * (if hp then 2 else 1)) start step)
    (heven : hp = true → step % 2 = 0) :
    readDecode hp (encode f) =
      some (tableView f.steps.length L (if hp then 2 else 1) (iter start step) (slabAt f)) := by
  unfold readDecode
  simp only
  rw [if_neg r.chunk.2, r.chunk.1]
  exact readRows_spec r.table heven r.two (Nat.pos_of_mul_pos_right r.one)

theorem Regular.readers_agree {hp : Bool} (r : Regular f (L * (if hp then 2 else 1)) start step)
    (heven : hp = true → step % 2 = 0) :
    (mmDecode (if hp then Kind.heightPressure else Kind.one3d) f.cells (encode f)).map
        (fun v => (v.nt, v.nz, v.flags.map (fun p => (((p.1 : Nat) : Int), truncF32 p.2)), v.vars.map (·.2))) =
    (readDecode hp (encode f)).map (fun v => (v.nt, v.nz, v.times, v.vars)) := by
  obtain ⟨s0, s1, rest, hst, -, -⟩ := r.wf.two
  have hs0 := r.slabs s0 (hst ▸ List.mem_cons_self)
  have htimes := r.times
  rw [mm_decode_encode _ f r.wf, r.read_decode_encode heven, viewOf_cons _ hst]
  cases hp
  · simp only [Bool.false_eq_true, if_false, Nat.mul_one] at hs0 r ⊢
    have t1 := slabs_table_all f L r.slabs
    simp only [layersOf, Option.map_some, tableView, stepVars, foldl_merge1, List.map_map, Function.comp_def, htimes,
      Nat.mul_one, Nat.add_zero, t1, hs0, List.range_one, List.map_cons, List.map_nil]
    -- remains: the slabs of the first step followed by those of the later steps are those of all steps
    rw [hst]
    rfl
  · simp only [if_true] at hs0 r ⊢
    have hm2 : s0.slabs.length % 2 = 0 ∧ s0.slabs.length ≥ 2 := by
      rw [hs0]
      exact ⟨Nat.mul_mod_left L 2, Nat.le_mul_of_pos_left 2 (Nat.pos_of_mul_pos_right r.one)⟩
    have t0 := slabs_table_every2 f L 0 Nat.two_pos r.slabs
    have t1 := slabs_table_every2 f L 1 Nat.one_lt_two r.slabs
    have r2 : List.range 2 = [0, 1] := rfl
    simp only [layersOf, hm2, and_self, if_true, Option.map_some, tableView, stepVars, foldl_merge2, List.map_map,
      Function.comp_def, htimes, t0, t1, r2, List.map_cons, List.map_nil, Option.some.injEq, Prod.mk.injEq, true_and]
    -- remains: the layer count; for each parity the first step's slabs followed by the later steps' are those of all steps
    rw [hst]
    exact ⟨by rw [hs0, Nat.mul_div_cancel L Nat.two_pos], rfl⟩

theorem Regular.read_temp_decode_encode (r : Regular f (L + 1) start step) (heven : step % 2 = 0) (hL : 1 ≤ L) :
    readTempDecode (encode f) = some (tempView f.steps.length (L + 1) (iter start step) (slabAt f)) := by
  unfold readTempDecode
  simp only
  rw [if_neg r.chunk.2, r.chunk.1]
  exact readTempRows_spec r.table heven r.two (Nat.succ_le_succ hL)

theorem Regular.readers_agree_temperature (r : Regular f (L + 1) start step) (heven : step % 2 = 0) (hL : 1 ≤ L) :
    (mmDecode Kind.temperature f.cells (encode f)).map
        (fun v => (v.nt, v.nz, v.flags.map (fun p => (((p.1 : Nat) : Int), truncF32 p.2)), v.vars.map (·.2))) =
    (readTempDecode (encode f)).map (fun v => (v.nt, v.nz, v.times, v.vars)) := by
  obtain ⟨s0, s1, rest, hst, -, -⟩ := r.wf.two
  have hs0 := r.slabs s0 (hst ▸ List.mem_cons_self)
  have hm2 : s0.slabs.length ≥ 2 := by rw [hs0]; exact Nat.succ_le_succ hL
  have htimes := r.times
  have t0 := slabs_table_take1 f (fun s hs => by rw [r.slabs s hs]; exact Nat.le_add_left 1 L)
  have t1 := slabs_table_drop1 f L r.slabs
  rw [mm_decode_encode _ f r.wf, r.read_temp_decode_encode heven hL, viewOf_cons _ hst]
  simp only [layersOf, hm2, if_true, Option.map_some, tempView, stepVars, foldl_merge2, List.map_map, Function.comp_def,
    htimes, t0, t1, Nat.add_sub_cancel, List.map_cons, List.map_nil, Option.some.injEq, Prod.mk.injEq, true_and]
  -- remains: the layer count; the first step's surface slab and layer slabs followed by the later steps' are those of all steps
  rw [hst]
  exact ⟨by rw [hs0, Nat.add_sub_cancel], rfl⟩

end

/-- **C13 (record readers).** For every file with a regular time axis — any grid, any number of layers, at least
two steps, any payload — the record-based reader of the one3d family (`hp = false`) and of height/pressure files
(`hp = true`) presents exactly the content the file was written from: the number of steps and layers, the time
of every step and the cells of every slab. -/
theorem read_decode_encode (hp : Bool) (f : SFile) (L : Nat) (start : DT) (step : Int) (h : ReadWF hp f L start step) :
    readDecode hp (encode f) =
      some (tableView f.steps.length L (if hp then 2 else 1) (iter start step) (slabAt f)) :=
  h.regular.read_decode_encode fun _ => h.even

/-- **C13 (the two reader families agree).** On every file with a regular time axis the memory-mapped reader and the
record-based reader present the same number of steps and layers, the same time of every step and the same cells
of every variable — for the one3d family (`hp = false`) and for height/pressure files (`hp = true`), any grid,
layer count, number of steps ≥ 2 and payload. -/
theorem readers_agree (hp : Bool) (f : SFile) (L : Nat) (start : DT) (step : Int) (h : ReadWF hp f L start step) :
    (mmDecode (if hp then Kind.heightPressure else Kind.one3d) f.cells (encode f)).map
        (fun v => (v.nt, v.nz, v.flags.map (fun p => (((p.1 : Nat) : Int), truncF32 p.2)), v.vars.map (·.2))) =
    (readDecode hp (encode f)).map (fun v => (v.nt, v.nz, v.times, v.vars)) :=
  h.regular.readers_agree fun _ => h.even

/-- **C13 (temperature record reader).** On every temperature file with a regular time axis the record reader
presents the written content: steps, layers, the time of every step, the surface slab and the layer slabs of every
step. -/
theorem read_temp_decode_encode (f : SFile) (L : Nat) (start : DT) (step : Int) (h : TempWF f L start step) :
    readTempDecode (encode f) = some (tempView f.steps.length (L + 1) (iter start step) (slabAt f)) :=
  h.regular.read_temp_decode_encode h.even h.layers

/-- **C13 (temperature: the two reader families agree).** -/
theorem readers_agree_temperature (f : SFile) (L : Nat) (start : DT) (step : Int) (h : TempWF f L start step) :
    (mmDecode Kind.temperature f.cells (encode f)).map
        (fun v => (v.nt, v.nz, v.flags.map (fun p => (((p.1 : Nat) : Int), truncF32 p.2)), v.vars.map (·.2))) =
    (readTempDecode (encode f)).map (fun v => (v.nt, v.nz, v.times, v.vars)) :=
  h.regular.readers_agree_temperature h.even h.layers

/-- the hypotheses of `readers_agree` are met: three hourly steps across midnight, two layers, two cells -/
def exRead : SFile :=
  ⟨2, [⟨f32OfNat 2300, 19200, [[1, 2], [3, 4]]⟩, ⟨f32OfNat 0, 19201, [[5, 6], [7, 8]]⟩, ⟨f32OfNat 100, 19201, [[9, 10], [11, 12]]⟩]⟩

theorem exRead_wf : ReadWF false exRead 2 (19200, 2300) 100 := by
  refine ⟨by decide, by decide, by decide, by decide, by decide, by decide, by decide, ?_⟩
  intro i h
  have e0 : (((19200 : Nat) : Int), truncF32 (f32OfNat 2300)) = iter (19200, 2300) 100 0 := by decide +kernel
  have e1 : (((19201 : Nat) : Int), truncF32 (f32OfNat 0)) = iter (19200, 2300) 100 1 := by decide +kernel
  have e2 : (((19201 : Nat) : Int), truncF32 (f32OfNat 100)) = iter (19200, 2300) 100 2 := by decide +kernel
  have h3 : i < 3 := h
  match i, h3 with
  | 0, _ => exact e0
  | 1, _ => exact e1
  | 2, _ => exact e2

example : (readDecode false (encode exRead)).map (fun v => (v.nt, v.nz, v.times)) =
    some (3, 2, [(19200, 2300), (19201, 0), (19201, 100)]) := by
  rw [read_decode_encode false exRead 2 (19200, 2300) 100 exRead_wf]
  decide +kernel

/-- … and those of `readers_agree_temperature`: two 12-hourly steps, one layer above the surface slab -/
def exTemp : SFile :=
  ⟨1, [⟨f32OfNat 1200, 19200, [[1], [2]]⟩, ⟨f32OfNat 0, 19201, [[3], [4]]⟩]⟩

theorem exTemp_wf : TempWF exTemp 1 (19200, 1200) 1200 := by
  refine ⟨by decide, by decide, by decide, by decide, by decide, by decide, by decide, ?_⟩
  intro i h
  have e0 : (((19200 : Nat) : Int), truncF32 (f32OfNat 1200)) = iter (19200, 1200) 1200 0 := by decide +kernel
  have e1 : (((19201 : Nat) : Int), truncF32 (f32OfNat 0)) = iter (19200, 1200) 1200 1 := by decide +kernel
  have h2 : i < 2 := h
  match i, h2 with
  | 0, _ => exact e0
  | 1, _ => exact e1

/-! ### gridded average / instant files: the record reader (`uamiv/Read.py`) and the memory-mapped reader -/

/-- **C13 (gridded files, at the level of the bytes).** For every file with standard header records whose time axis
lies inside one day — whatever its data blocks hold, markers included — both readers open it and present the same
counts and, for every (species, step, layer), the same words. -/
theorem uamiv_readers_agree_words (ws : List Word) (nspec nx ny nz T : Nat) (d a s : Int)
    (h : UamivRead.Std ws nspec nx ny nz T d a s) :
    ∃ v m, UamivRead.read ws = some v ∧ Camx.decodeMM ws 0 = .ok m ∧
      v.nspec = m.nspec ∧ v.nx = m.nx ∧ v.ny = m.ny ∧ v.nz = m.nz ∧ v.nt = m.steps.length ∧
      v.data = UamivRead.bySpecies m :=
  ⟨UamivRead.stdView ws nspec nx ny nz T, Camx.mkView ws T, UamivRead.read_std h,
    UamivRead.decodeMM_std h, h.counts.1.symm, h.counts.2.1.symm, h.counts.2.2.1.symm,
    h.counts.2.2.2.symm, (List.length_map _).trans List.length_range |>.symm,
    (UamivRead.mkView_bySpecies h).symm⟩

/-- **C13 (gridded files, written content).** For every well-formed AVERAGE/INSTANT-like content whose steps (whole
hours, odd or even) lie inside one day, both readers applied to the encoded file present exactly the content: counts,
species names, and every slab. -/
theorem uamiv_read_encode (f : Camx.Uamiv) (d a s : Int) (h : UamivRead.OneDay f d a s) :
    UamivRead.read f.encode = some (UamivRead.recViewOf f) ∧ Camx.decodeMM f.encode 0 = .ok (Camx.viewOf f) := by
  have hstd := UamivRead.std_of_oneDay h
  obtain ⟨-, -, -, hspw, -⟩ := Camx.encode_slices f h.wf
  obtain ⟨st, rest, hs, -⟩ := h.first
  refine ⟨?_, Camx.decodeMM_encode f h.wf h.nz1 (by rw [hs]; exact List.cons_ne_nil _ _)⟩
  have hdata := UamivRead.mkView_bySpecies hstd
  rw [Camx.mkView_encode f h.wf h.nz1] at hdata
  have hsp : Camx.splitEvery 10 f.nspec (((f.encode.drop 102).take (10 * f.nspec)).map UamivRead.int2asc) =
      f.species.map (·.map Int.ofNat) := by
    rw [hspw, UamivRead.flatten_map_int2asc h.asciiSpecies]
    exact UamivRead.splitEvery_ofNat h.wf.species
  rw [UamivRead.read_std hstd, UamivRead.stdView, UamivRead.recViewOf,
    Option.some.injEq, UamivRead.RecView.mk.injEq]
  exact ⟨rfl, rfl, rfl, rfl, rfl, hsp, hdata.symm⟩

/-- a 2-species, 1 x 2-cell, 2-layer file with two 2-hour steps from 03:00 -/
def exUamiv : Camx.Uamiv where
  name := [65, 86, 69, 82, 65, 71, 69, 32, 32, 32]
  note := List.replicate 60 32
  itzon := 0
  ibdate := 19001
  btime := f32OfNat 3
  iedate := 19001
  etime := f32OfNat 7
  grid := [0, 0, 0, 0, 0, 0, 0, 2, 1, 2, 0, 0, 0, 0, 0]
  species := [List.replicate 10 66, List.replicate 10 67]
  steps := [⟨19001, f32OfNat 3, 19001, f32OfNat 5, [[[1, 2], [3, 4]], [[5, 6], [7, 8]]]⟩,
            ⟨19001, f32OfNat 5, 19001, f32OfNat 7, [[[9, 10], [11, 12]], [[13, 14], [15, 16]]]⟩]

/-- non-vacuity: the example meets the hypotheses, and the record reader model presents its content -/
theorem exUamiv_oneDay : UamivRead.OneDay exUamiv 19001 3 2 where
  wf := ⟨by decide, by decide, by decide, by decide, by decide⟩
  asciiName := by decide
  asciiNote := by decide
  asciiSpecies := by decide
  notE := by decide
  notA := by decide
  nspec1 := by decide
  nspecS := by decide
  nxS := by decide
  nyS := by decide
  nzS := by decide
  nz1 := by decide
  sd0 := by decide
  st0 := by decide +kernel
  ed0 := by decide
  et0 := by decide +kernel
  first := ⟨_, _, rfl, by decide +kernel⟩
  s1 := by decide
  a0 := by decide
  aT := by decide

example : (UamivRead.read exUamiv.encode).map (fun v => (v.nt, v.nz, v.data)) =
    some (2, 2, [[[[1, 2], [3, 4]], [[9, 10], [11, 12]]], [[[5, 6], [7, 8]], [[13, 14], [15, 16]]]]) := by
  rw [(uamiv_read_encode exUamiv 19001 3 2 exUamiv_oneDay).1]
  rfl

/-! ### wind files: the record reader (`wind/Read.py`) and the memory-mapped reader -/

/-- **C13 (wind files).** For every wind file of at least two steps on a regular time axis (any whole-HHMM step up to
a day, over any number of midnights), any number of layers, any grid of at least four cells, either header variant and
any payload, the record reader presents exactly the steps' times and the U and V slab of every step and layer, and
the memory-mapped reader presents exactly the encoded steps: the two agree through the content. -/
theorem wind_readers_agree (cells nz h : Nat) (steps : List Wind.WStep) (start : SlabRead.DT) (step : Int)
    (r : WindRec.RegW cells nz h steps start step) :
    WindRec.read cells (Wind.encode steps) = some (WindRec.viewOf nz steps start step) ∧
    Wind.read cells (Wind.encode steps) = some steps :=
  ⟨WindRec.read_encode r.wf r.cells4 ⟨r.t0, r.st⟩ r.times, Wind.read_encode cells nz h steps r.wf⟩

/-- a two-step, one-layer wind file on a 2 x 2 grid with the three-word header: 23:00 and 00:00 of the next day -/
def exWind : List Wind.WStep :=
  [⟨f32OfNat 2300, 19200, some 0, [[1, 2, 3, 4], [5, 6, 7, 8]]⟩, ⟨f32OfNat 0, 19201, some 0, [[9, 10, 11, 12], [13, 14, 15, 16]]⟩]

theorem exWind_reg : WindRec.RegW 4 1 3 exWind (19200, 2300) 100 := by
  refine ⟨⟨by decide, by decide, by decide, by decide, by decide⟩, by decide, by decide, by decide, by decide, ?_⟩
  intro i hi
  have e0 : WindRec.dtOf (exWind[0]'(by decide)) = SlabRead.iter (19200, 2300) 100 0 := by decide +kernel
  have e1 : WindRec.dtOf (exWind[1]'(by decide)) = SlabRead.iter (19200, 2300) 100 1 := by decide +kernel
  have h2 : i < 2 := hi
  match i, h2 with
  | 0, _ => exact e0
  | 1, _ => exact e1

example : (WindRec.read 4 (Wind.encode exWind)).map (fun v => (v.nt, v.nz, v.times, v.u, v.v)) =
    some (2, 1, [(19200, 2300), (19201, 0)], [[[1, 2, 3, 4]], [[9, 10, 11, 12]]], [[[5, 6, 7, 8]], [[13, 14, 15, 16]]]) := by
  rw [(wind_readers_agree 4 1 3 exWind (19200, 2300) 100 exWind_reg).1]
  rfl

/-- **C13 (wind files of one step).** The record reader finds no second time header, presents one step with a nominal
step of 100 and exactly the U and V slabs of the file; the memory-mapped reader presents the encoded step. -/
theorem wind_readers_agree_one (cells nz h : Nat) (s : Wind.WStep) (o : WindRec.OneW cells nz h s) :
    WindRec.read cells (Wind.encode [s]) = some (WindRec.viewOf nz [s] (WindRec.dtOf s) 100) ∧
    Wind.read cells (Wind.encode [s]) = some [s] :=
  ⟨WindRec.read_encode_one o, Wind.read_encode cells nz h [s] o.wf⟩

/-- a one-step, two-layer wind file on a 2 x 2 grid with the two-word header -/
def exWindOne : Wind.WStep := ⟨f32OfNat 1800, 19200, none, [[1, 2, 3, 4], [5, 6, 7, 8], [9, 10, 11, 12], [13, 14, 15, 16]]⟩

theorem exWindOne_ok : WindRec.OneW 4 2 2 exWindOne := by
  refine ⟨⟨by decide, by decide, by decide, by decide, by decide⟩, by decide, by decide +kernel⟩

example : (WindRec.read 4 (Wind.encode [exWindOne])).map (fun v => (v.nt, v.nz, v.times, v.u, v.v)) =
    some (1, 2, [(19200, 1800)], [[[1, 2, 3, 4], [9, 10, 11, 12]]], [[[5, 6, 7, 8], [13, 14, 15, 16]]]) := by
  rw [(wind_readers_agree_one 4 2 2 exWindOne exWindOne_ok).1]
  have e : WindRec.dtOf exWindOne = (19200, 1800) := by decide +kernel
  rw [e]
  rfl

end Props.C13
