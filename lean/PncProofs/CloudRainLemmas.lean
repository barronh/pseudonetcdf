import PncModel.Camx.CloudRainRead
import PncProofs.WindLemmas

/-! The cloud/rain format (`PncModel/Camx/CloudRainRead.lean`): the memory-mapped reader undoes the encoder. -/
namespace CloudRain
open Words
open Wind (dataRows_frames)

/-- a cloud/rain file the reader can tell apart: `nv` = 3 or 5 variables, `nz` layers, every step with `nz * nv`
slabs of `nx * ny` words; a 3-variable file must not have a data section that is also a whole number of
5-variable steps (the format does not say which it is) -/
structure WFc (nv : Nat) (f : CFile) : Prop where
  vars : nv = 3 ∨ nv = 5
  shape : ∀ s ∈ f.steps, s.slabs.length = f.nz * nv ∧ ∀ c ∈ s.slabs, c.length = f.nx * f.ny
  unambiguous : nv = 3 → (f.steps.length * (3 * f.nz * (f.nx * f.ny + 2) + 4)) % (5 * f.nz * (f.nx * f.ny + 2) + 4) ≠ 0

/-- the four-word (time, date) frame and `nv * nz` data frames -/
def stepLen (nv nz cells : Nat) : Nat := nv * nz * (cells + 2) + 4

theorem stepLen_pos (nv nz cells : Nat) : 0 < stepLen nv nz cells := Nat.succ_pos _

def stepWords (s : CStep) : List Word := encodeRecs ([s.time, s.date] :: s.slabs)

theorem stepWords_length {nv nz cells : Nat} {s : CStep} (hs : s.slabs.length = nz * nv) (hc : ∀ c ∈ s.slabs, c.length = cells) :
    (stepWords s).length = stepLen nv nz cells := by
  rw [stepWords, encodeRecs_cons, List.length_append, encodeRecs_length_uniform hc, hs, Nat.mul_comm nz, Nat.add_comm]
  rfl

theorem parseStep_stepWords (cells n : Nat) (s : CStep) (hs : s.slabs.length = n) (hc : ∀ c ∈ s.slabs, c.length = cells) :
    parseStep cells n (stepWords s) = some s := by
  have hbl : (encodeRecs s.slabs).length = (cells + 2) * n := by rw [encodeRecs_length_uniform hc, hs, Nat.mul_comm]
  have hdrop : (stepWords s).drop 4 = encodeRecs s.slabs := drop_frame [s.time, s.date] _
  have h03 : (stepWords s).getD 0 0 = (stepWords s).getD 3 0 := rfl
  unfold parseStep
  simp only [hdrop]
  rw [if_neg (not_not_intro h03), hbl, if_neg (not_not_intro rfl), ← hbl, dataRows_frames hc]
  rfl

theorem readSteps_loop (cells n W : Nat) : List.BlockLoop (readSteps cells n W) (parseStep cells n) W :=
  ⟨fun _ => rfl, fun k ws => by
    rw [readSteps]
    cases parseStep cells n (ws.take W) <;> cases readSteps cells n W k (ws.drop W) <;> rfl⟩

theorem encode_eq (f : CFile) :
    encode f = frame (f.desc ++ [f.nx, f.ny, f.nz]) ++ (f.steps.map stepWords).flatten := by
  rw [encode, records, encodeRecs_cons, encodeRecs_flatten, List.map_map]
  rfl

theorem read_frame (desc : List Word) (nx ny nz : Word) (data : List Word) (nv : Nat) (steps : List CStep)
    (hnv : guessVars nz (nx * ny) data.length = nv) (hmod : data.length % stepLen nv nz (nx * ny) = 0)
    (hsteps : readSteps (nx * ny) (nz * nv) (stepLen nv nz (nx * ny)) (data.length / stepLen nv nz (nx * ny)) data =
      some steps) :
    read (frame (desc ++ [nx, ny, nz]) ++ data) = some ⟨desc, nx, ny, nz, steps⟩ := by
  have hl : (desc ++ [nx, ny, nz]).length = desc.length + 3 := List.length_append
  have hhw : (frame (desc ++ [nx, ny, nz]) ++ data).headD 0 / 4 = desc.length + 3 := by
    rw [headD_frame, Nat.mul_div_cancel_left _ (Nat.succ_pos 3), hl]
  have hpay : ((frame (desc ++ [nx, ny, nz]) ++ data).drop 1).take (desc.length + 3) = desc ++ [nx, ny, nz] := by
    rw [← hl, payload_frame]
  have hdata : (frame (desc ++ [nx, ny, nz]) ++ data).drop (desc.length + 3 + 2) = data := by
    rw [← hl, drop_frame]
  have hget : ∀ i, (desc ++ [nx, ny, nz]).getD (desc.length + i) 0 = [nx, ny, nz].getD i 0 := fun i => by
    rw [List.getD_eq_getElem?_getD, List.getElem?_append_right (Nat.le_add_right _ _), Nat.add_sub_cancel_left,
      List.getD_eq_getElem?_getD]
  have hx : (desc ++ [nx, ny, nz]).getD desc.length 0 = nx := hget 0
  have hy : (desc ++ [nx, ny, nz]).getD (desc.length + 1) 0 = ny := hget 1
  have hz : (desc ++ [nx, ny, nz]).getD (desc.length + 2) 0 = nz := hget 2
  unfold stepLen at hmod hsteps
  unfold read
  simp only [hhw, hpay, hdata, Nat.add_sub_cancel, show desc.length + 3 - 2 = desc.length + 1 from rfl,
    show desc.length + 3 - 1 = desc.length + 2 from rfl, hx, hy, hz, List.take_left, hnv, hsteps]
  rw [if_neg (Nat.not_lt.mpr (Nat.le_add_left 3 _)), if_neg (not_not_intro hmod)]

theorem guessVars_steps (nv nz cells T : Nat) (hnv : nv = 3 ∨ nv = 5)
    (hun : nv = 3 → (T * (3 * nz * (cells + 2) + 4)) % (5 * nz * (cells + 2) + 4) ≠ 0) :
    guessVars nz cells (T * stepLen nv nz cells) = nv := by
  unfold guessVars stepLen
  rcases hnv with rfl | rfl
  · rw [if_neg (hun rfl), if_pos (Nat.mul_mod_left _ _)]
  · rw [if_pos (Nat.mul_mod_left _ _)]

theorem read_encode (nv : Nat) (f : CFile) (w : WFc nv f) : read (encode f) = some f := by
  have hstep : ∀ s ∈ f.steps, (stepWords s).length = stepLen nv f.nz (f.nx * f.ny) ∧
      parseStep (f.nx * f.ny) (f.nz * nv) (stepWords s) = some s := fun s hs =>
    ⟨stepWords_length (w.shape s hs).1 (w.shape s hs).2, parseStep_stepWords _ _ s (w.shape s hs).1 (w.shape s hs).2⟩
  have hlen : ((f.steps.map stepWords).flatten).length = f.steps.length * stepLen nv f.nz (f.nx * f.ny) := by
    rw [List.length_flatten_uniform (List.forall_mem_map.mpr fun s hs => (hstep s hs).1), List.length_map]
  have hloop := (readSteps_loop (f.nx * f.ny) (f.nz * nv) _).flatten stepWords f.steps [] hstep
  rw [List.append_nil] at hloop
  rw [encode_eq]
  refine read_frame f.desc f.nx f.ny f.nz _ nv f.steps ?_ ?_ ?_
  · rw [hlen]
    exact guessVars_steps nv f.nz _ _ w.vars w.unambiguous
  · rw [hlen, Nat.mul_mod_left]
  · rw [hlen, Nat.mul_div_cancel _ (stepLen_pos _ _ _)]
    exact hloop

end CloudRain
