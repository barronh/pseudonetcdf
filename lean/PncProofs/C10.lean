import PncModel.Generated.IoapiStd
import PncProofs.IoapiLemmas
/-!
C10 — IOAPI metadata stays coherent under every operation.

`Coherent` (PncModel/Ioapi.lean) is the conjunction of the equalities of the property statement.  Every
operation of the model is the sequence of primitive calls of the Python method and ends in the normaliser
`updatemeta`, called on a state whose time flags and level edges are in order (`Ioapi.Ready`).  What `updatemeta`
returns then is coherent as long as one variable remains listed, so each operation maps a coherent state to a
coherent state, for ALL states (any number of variables, steps, layers, any names), under that side condition
(`zero_listed_counterexample` shows that it is real — recorded finding) and for time flags that are well-formed
flags of years 1000–9999 (`TimeOk`: the years that `strptime` reads back from the seven digits of a date flag, and
that `datetime` can hold).
-/
namespace Props.C10
open Ioapi Cal TimeDec

/-- start time and every time flag are well-formed and within datetime's year range -/
def TimeOk (s : St) : Prop :=
  GoodFlag s.sdate s.stime ∧ ∀ w rows, s.tflag = some (w, rows) → ∀ r ∈ rows, GoodFlag r.1 r.2

/-! ### every operation returns a settled state -/

theorem settled_copy (s : St) (h : Coherent s) (hr : Ready (frame s) s.tflag) : Settled (opCopy s) :=
  opCopy_eq_updatemeta s h.dimsOk ▸ .of_frame (frame_putAll _ _) (tflag_putAll _ _) hr.tflag_none

theorem settled_subset (s : St) (keys : List String) (hr : Ready (frame s) s.tflag) : Settled (opSubset s keys) :=
  .of_frame (frame_subsetPre s keys) (tflag_subsetPre s keys) hr.tflag_none

theorem settled_rename (s s' : St) (old new : String) (hr : Ready (frame s) s.tflag)
    (hs : opRename s old new = some s') : Settled s' := by
  obtain ⟨v, -, hs⟩ := Option.bind_eq_some_iff.mp hs
  cases hs
  exact .of_frame (frame_renamePre s v old new) (tflag_renamePre s v old new) hr

theorem settled_eval (s s' : St) (new src : String) (ip : Bool) (hr : Ready (frame s) s.tflag)
    (hs : opEval s new src ip = some s') : Settled s' := by
  obtain ⟨v, -, hs⟩ := Option.bind_eq_some_iff.mp hs
  cases hs
  cases ip with
  | true => exact .of_frame (frame_evalInPre s _) (tflag_evalInPre s _) hr
  | false =>
    obtain ⟨w, rows, e, hr'⟩ := (settled_subset s [src] hr).ready
    exact .of_frame (frame_evalOutPre s _ src) ((tflag_evalOutPre s _ src).trans e) hr'

/-- `maskPre` is built on the copy without variables, which has the frame of the file because `updatetflag`, which
closes it, keeps the frame -/
theorem settled_mask (s : St) (h : Coherent s) (hr : Ready (frame s) s.tflag) : Settled (opMask s) := by
  obtain ⟨rows, htf, -⟩ := h.tflag
  refine .of_frame ?_ ?_ hr
  · simp only [maskPre, htf, frame_putTflag, frame_copyVarsInto, copyNoVars]
    exact frame_updatetflag (shell s) false hr.start
  · simp only [maskPre, htf, tflag_putTflag]

/-- `hne`: when `a` has no step the result starts with the first flag of `b` -/
theorem settled_stack_T (a b : St) {w1 w2 : Nat} {rows1 rows2 : List (Int × Int)} (ha : Ready (frame a) (some (w1, rows1)))
    (hta : a.tflag = some (w1, rows1)) (htb : b.tflag = some (w2, rows2)) (hl2 : rows2.length = b.nT)
    (hne : rows1 = [] → ∀ r ∈ rows2.head?, r = (a.sdate, a.stime)) : Settled (updatemeta (stackPre a b Dm.T)) := by
  refine .of_frame (frame_copyVarsInto _ _ _) ((tflag_copyVarsInto_of_some hta _).trans ?_) (ha.append (w2 := w1) hl2 hne)
  rw [htb]
  rfl

theorem settled_stack (s s' : St) (d : Dm) (h : Coherent s) (hr : Ready (frame s) s.tflag)
    (hs : opStack s d = some s') : Settled s' := by
  obtain ⟨rows, htf, -⟩ := h.tflag
  have hfo := frame_opCopy s hr.start
  obtain ⟨w2, rows2, htf2, hr2⟩ := (settled_copy s h hr).ready
  rw [hfo] at hr2
  cases d with
  | T =>
    cases hs
    exact settled_stack_T s (opCopy s) (htf ▸ hr) htf htf2
      ((hr2.keep _ _ rfl).1.trans (congrArg Frame.nT hfo).symm) fun _ => (hr2.keep _ _ rfl).2
  | L =>
    cases hs
    have hnL : (opCopy s).nL = s.nL := congrArg Frame.nL hfo
    have hvg : (opCopy s).vglvls = s.vglvls := congrArg Frame.vglvls hfo
    refine .of_frame (frame_setVglvls_copyVarsInto _ _ _ _)
      ((tflag_setVglvls _ _).trans (tflag_copyVarsInto_id _ s _ rfl fun _ => rfl)) ⟨hr.toTimed.congr rfl rfl rfl, ?_⟩
    show (s.vglvls ++ (opCopy s).vglvls.drop 1).length = s.nL + (opCopy s).nL + 1
    rw [hnL, hvg, List.length_append, List.length_drop, h.vg, Nat.add_sub_cancel, Nat.add_right_comm]
  | _ => cases hs

/-- a resized TSTEP has its flags written anew (`updatetflag … true`); the level edges follow a resized LAY -/
theorem settled_apply (s s' : St) (d : Dm) (f : FnK) (hr : Ready (frame s) s.tflag) (hs : opApply s d f = some s') :
    Settled s' := by
  obtain ⟨hm, rfl⟩ := opApply_some hs
  cases d with
  | T =>
    simp only [beq_self_eq_true, if_true]
    have hf : frame (applyPre s Dm.T f) = { frame s with nT := fnLen f s.nT } := frame_copyVarsInto _ _ _
    have hf1 := frame_updatemeta (applyPre s Dm.T f) (hf ▸ hr.start)
    rw [hf] at hf1
    -- the frame is all that is needed of the inner `updatemeta`; naming it keeps the unifier from unfolding it
    generalize updatemeta (applyPre s Dm.T f) = q at hf1 ⊢
    have hq : GoodFlag (frame q).sdate (frame q).stime := hf1 ▸ hr.start
    obtain ⟨w, rows, e, -, hT⟩ := timed_updatetflag q true hq
    exact .of_frame rfl e ⟨hT (.inl rfl), (frame_updatetflag q true hq).trans hf1 ▸ hr.vg⟩
  | L =>
    exact .of_frame (frame_setVglvls_copyVarsInto _ _ _ _)
      ((tflag_setVglvls _ _).trans (tflag_copyVarsInto_id _ s _ rfl fun _ => rfl))
      ⟨hr.toTimed.congr rfl rfl rfl, applyLevels_length f s.vglvls s.nL hr.vg hm⟩
  | _ =>
    exact .of_frame (frame_copyVarsInto _ _ _) (tflag_copyVarsInto_id _ s _ rfl fun _ => rfl)
      ⟨hr.toTimed.congr rfl rfl rfl, hr.vg⟩

theorem settled_interp (s s' : St) (lv : List Rat) (hr : Ready (frame s) s.tflag) (hs : opInterp s lv = some s') :
    Settled s' := by
  unfold opInterp at hs
  split at hs
  · cases hs
  · cases hs
    -- p0: the generic part of applyAlongDimensions(LAY=...); it has the old level edges, which `updatemeta` does not
    -- look at and which are replaced after it
    have hf0 := frame_copyVarsInto (setDim (shell s) Dm.L (lv.length - 1)) s id
    have ht0 := tflag_copyVarsInto_id (setDim (shell s) Dm.L (lv.length - 1)) s id rfl fun _ => rfl
    simp only [interpPre]
    generalize copyVarsInto (setDim (shell s) Dm.L (lv.length - 1)) s id = p0 at hf0 ht0 ⊢
    obtain ⟨w, rows, e3, -, hT3⟩ := timed_updatemeta p0 (hf0 ▸ hr.start)
    have hT3 := hT3 (hf0 ▸ ht0 ▸ hr.toTimed.congr rfl rfl rfl)
    have hnL : (frame (updatemeta p0)).nL = lv.length - 1 :=
      (congrArg Frame.nL (frame_updatemeta p0 (hf0 ▸ hr.start))).trans (congrArg Frame.nL hf0)
    -- all that is needed of the inner `updatemeta`; naming it keeps the unifier from unfolding it
    generalize updatemeta p0 = q at e3 hT3 hnL ⊢
    refine .of_frame (F := { frame q with vglvls := lv, nlays := lv.length - 1 }) rfl
      ((tflag_setNlays _ _).trans ((tflag_setVglvls _ _).trans e3)) ⟨hT3.congr rfl rfl rfl, ?_⟩
    show lv.length = (frame q).nL + 1
    rw [hnL]
    omega

theorem slicePre_time (s : St) {wt : Option Win} (it il ir ic ip : Option (List Nat)) (h : Coherent s) (ht : TimeOk s)
    (hit : idxOf s.nT wt = some it) :
    ∃ rows, s.tflag = some (s.varlist.length, rows) ∧
      (slicePre s it il ir ic ip).tflag = some (s.varlist.length, selRows it rows) ∧
      Timed (frame (slicePre s it il ir ic ip)) (some (s.varlist.length, selRows it rows)) := by
  obtain ⟨rows, htf, hl, hh⟩ := h.tflag
  refine ⟨rows, htf, tflag_copyVarsInto_of_some htf _, ?_⟩
  rw [frame_slicePre]
  cases it with
  | none => exact timed_of_rows ht.1 hl hh
  | some i =>
    obtain ⟨hne, hlt⟩ := idxOf_some hit
    have hst := sliceStart_eq_row s _ rows i htf hne (hl ▸ hlt) (ht.2 _ rows htf)
    -- the row is given as a pair: against `r.1`, `r.2` of an unknown `r` the unifier unfolds `GoodFlag` in vain
    have hg : GoodFlag (sliceStart s i).1 (sliceStart s i).2.1 := ht.2 _ rows htf (_, _) (List.mem_of_getElem? hst)
    refine timed_of_rows hg (pickL_length _ rows (hl ▸ hlt)) fun r hr => ?_
    rw [selRows, pickL_head? i rows hne (hl ▸ hlt), hst] at hr
    exact (Option.some.inj hr).symm

/-- the frame handed to `updatemeta` (`frame_slicePre`) with its counts refreshed -/
theorem slice_frame (s s' : St) (kw : Kw) (h : Coherent s) (ht : TimeOk s) (hs : opSlice s kw = some s') :
    ∃ it il ir ic ip, idxOf s.nT kw.t = some it ∧ idxOf s.nL kw.l = some il ∧ idxOf s.nR kw.r = some ir ∧
      idxOf s.nC kw.c = some ic ∧ idxOf s.nP kw.p = some ip ∧
      frame s' = Frame.refreshed
        { frame s with nT := newLen s.nT it, nL := newLen s.nL il, nR := newLen s.nR ir, nC := newLen s.nC ic,
                       nP := newLen s.nP ip, vglvls := selLevels il s.vglvls, xorig := selOrig ic s.xorig s.xcell,
                       yorig := selOrig ir s.yorig s.ycell, sdate := (selStart s it).1, stime := (selStart s it).2.1,
                       tstep := (selStart s it).2.2 } := by
  obtain ⟨it, il, ir, ic, ip, hit, hil, hir, hic, hip, rfl⟩ := opSlice_some hs
  obtain ⟨_, _, _, hT⟩ := slicePre_time s it il ir ic ip h ht hit
  exact ⟨it, il, ir, ic, ip, hit, hil, hir, hic, hip, frame_slicePre s it il ir ic ip ▸ frame_updatemeta _ hT.start⟩

theorem settled_slice (s s' : St) (kw : Kw) (h : Coherent s) (ht : TimeOk s) (hs : opSlice s kw = some s') :
    Settled s' := by
  obtain ⟨it, il, ir, ic, ip, hit, hil, -, -, -, rfl⟩ := opSlice_some hs
  obtain ⟨rows, -, htp, hT⟩ := slicePre_time s it il ir ic ip h ht hit
  refine .of_frame rfl htp ⟨hT, ?_⟩
  rw [frame_slicePre]
  cases il with
  | none => exact h.vg
  | some i =>
    obtain ⟨hne, hlt⟩ := idxOf_some hil
    exact sliceLevels_length s.vglvls i s.nL h.vg hne hlt

theorem slice_nT_pos (s s' : St) (w : Win) (h : Coherent s) (ht : TimeOk s)
    (hs : opSlice s { t := some w } = some s') : 1 ≤ s'.nT := by
  obtain ⟨it, il, ir, ic, ip, hit, _, _, _, _, hf⟩ := slice_frame s s' _ h ht hs
  obtain ⟨i, rfl, _, hne, _⟩ := idxOf_named hit
  have hT : s'.nT = i.length := congrArg Frame.nT hf
  exact hT ▸ List.length_pos_iff.mpr hne

theorem settled_restack (s s' : St) (k : Nat) (h : Coherent s) (ht : TimeOk s) (hs : opRestack s k = some s') :
    Settled s' := by
  unfold opRestack at hs
  split at hs
  · rename_i later earlier hl he
    cases hs
    obtain ⟨w1, rows1, htf1, hr1⟩ := (settled_slice s later _ h ht hl).ready
    obtain ⟨w2, rows2, htf2, hr2⟩ := (settled_slice s earlier _ h ht he).ready
    have hpos : 1 ≤ rows1.length := (hr1.keep _ _ rfl).1 ▸ slice_nT_pos s later _ h ht hl
    refine settled_stack_T later earlier hr1 htf1 htf2 (hr2.keep _ _ rfl).1 ?_
    rintro rfl
    exact absurd hpos (Nat.not_succ_le_zero 0)
  · cases hs

/-- time flags and level edges are right whatever is still listed -/
theorem settled_step (s s' : St) (op : Op) (h : Coherent s) (ht : TimeOk s) (hs : step s op = some s') :
    Settled s' := by
  have hr := h.ready ht.1
  cases op with
  | copy => exact Option.some.inj hs ▸ settled_copy s h hr
  | slice kw => exact settled_slice s s' kw h ht hs
  | subset ks => exact Option.some.inj hs ▸ settled_subset s ks hr
  | rename o n => exact settled_rename s s' o n hr hs
  | apply d f => exact settled_apply s s' d f hr hs
  | eval n src ip => exact settled_eval s s' n src ip hr hs
  | mask => exact Option.some.inj hs ▸ settled_mask s h hr
  | stack d => exact settled_stack s s' d h hr hs
  | restack k => exact settled_restack s s' k h ht hs
  | interp lv => exact settled_interp s s' lv hr hs

/-! ### coherent states go to coherent states -/

/-- **C10, one step**: every modelled operation maps a coherent file to a coherent file, provided at least
one variable is still listed afterwards. -/
theorem coherent_step (s s' : St) (op : Op) (h : Coherent s) (ht : TimeOk s) (hs : step s op = some s')
    (hn : 1 ≤ s'.varlist.length) : Coherent s' :=
  (settled_step s s' op h ht hs).coherent hn

/-- copy() -/
theorem coherent_copy (s : St) (h : Coherent s) (ht : TimeOk s) (hn : 1 ≤ (opCopy s).varlist.length) :
    Coherent (opCopy s) :=
  (settled_copy s h (h.ready ht.1)).coherent hn

/-- subsetVariables(keys) -/
theorem coherent_subset (s : St) (keys : List String) (h : Coherent s) (ht : TimeOk s)
    (hn : 1 ≤ (opSubset s keys).varlist.length) : Coherent (opSubset s keys) :=
  (settled_subset s keys (h.ready ht.1)).coherent hn

/-- renameVariable(old, new) -/
theorem coherent_rename (s s' : St) (old new : String) (h : Coherent s) (ht : TimeOk s)
    (hs : opRename s old new = some s') (hn : 1 ≤ s'.varlist.length) : Coherent s' :=
  (settled_rename s s' old new (h.ready ht.1) hs).coherent hn

/-- eval('new = f(src)', inplace) -/
theorem coherent_eval (s s' : St) (new src : String) (ip : Bool) (h : Coherent s) (ht : TimeOk s)
    (hs : opEval s new src ip = some s') (hn : 1 ≤ s'.varlist.length) : Coherent s' :=
  (settled_eval s s' new src ip (h.ready ht.1) hs).coherent hn

/-- mask(...) -/
theorem coherent_mask (s : St) (h : Coherent s) (ht : TimeOk s) (hn : 1 ≤ (opMask s).varlist.length) :
    Coherent (opMask s) :=
  (settled_mask s h (h.ready ht.1)).coherent hn

/-- stack(self.copy(), DIM) for DIM = TSTEP or LAY -/
theorem coherent_stack (s s' : St) (d : Dm) (h : Coherent s) (ht : TimeOk s)
    (hs : opStack s d = some s') (hn : 1 ≤ s'.varlist.length) : Coherent s' :=
  (settled_stack s s' d h (h.ready ht.1) hs).coherent hn

/-- applyAlongDimensions(DIM=f) -/
theorem coherent_apply (s s' : St) (d : Dm) (f : FnK) (h : Coherent s) (ht : TimeOk s)
    (hs : opApply s d f = some s') (hn : 1 ≤ s'.varlist.length) : Coherent s' :=
  (settled_apply s s' d f (h.ready ht.1) hs).coherent hn

/-- interpSigma(newlevels) -/
theorem coherent_interp (s s' : St) (lv : List Rat) (h : Coherent s) (ht : TimeOk s)
    (hs : opInterp s lv = some s') (hn : 1 ≤ s'.varlist.length) : Coherent s' :=
  (settled_interp s s' lv (h.ready ht.1) hs).coherent hn

/-- sliceDimensions(**windows) -/
theorem coherent_slice (s s' : St) (kw : Kw) (h : Coherent s) (ht : TimeOk s)
    (hs : opSlice s kw = some s') (hn : 1 ≤ s'.varlist.length) : Coherent s' :=
  (settled_slice s s' kw h ht hs).coherent hn

/-- what `sliceDimensions` guarantees about time and levels, whatever is still listed afterwards -/
theorem slice_spec (s s' : St) (kw : Kw) (h : Coherent s) (ht : TimeOk s) (hs : opSlice s kw = some s') :
    GoodFlag s'.sdate s'.stime ∧ s'.vglvls.length = s'.nL + 1 ∧
    ∃ w rows, s'.tflag = some (w, rows) ∧ rows.length = s'.nT ∧ ∀ r ∈ rows.head?, r = (s'.sdate, s'.stime) := by
  obtain ⟨w, rows, e, hr⟩ := (settled_slice s s' kw h ht hs).ready
  exact ⟨hr.start, hr.vg, w, rows, e, hr.keep w rows rfl⟩

/-- `self[k:].stack(self[:k], 'TSTEP')`: files stacked against the order of time.  The result keeps the rows in the order
given, so it starts with the first flag of the receiver: SDATE/STIME stay those of the receiver. -/
theorem coherent_restack (s s' : St) (k : Nat) (h : Coherent s) (ht : TimeOk s)
    (hs : opRestack s k = some s') (hn : 1 ≤ s'.varlist.length) : Coherent s' :=
  (settled_restack s s' k h ht hs).coherent hn

/-- **`updatemeta()` establishes the property** (re-exported): see `Ioapi.coherent_updatemeta` -/
theorem coherent_updatemeta (p : St) (hn : 1 ≤ (getVarlist p).varlist.length)
    (hv : p.vglvls.length = p.nL + 1) (hstart : GoodFlag p.sdate p.stime)
    (hkeep : ∀ w rows, p.tflag = some (w, rows) →
      rows.length = p.nT ∧ ∀ r ∈ rows.head?, r = (p.sdate, p.stime)) :
    Coherent (updatemeta p) := Ioapi.coherent_updatemeta p hn hv hstart hkeep

/-- the states an operation sequence goes through (none when an operation raises) -/
def runAll : St → List Op → Option (List St)
  | _, [] => some []
  | s, op :: rest => match step s op with
    | some s' => (runAll s' rest).map (s' :: ·)
    | none => none

/-- **C10, any sequence**: along any sequence of operations of any length, every state is coherent, as long
as each keeps a listed variable and well-formed time flags. -/
theorem coherent_run (ops : List Op) : ∀ (s0 : St) (states : List St), runAll s0 ops = some states →
    Coherent s0 → TimeOk s0 → (∀ s ∈ states, TimeOk s ∧ 1 ≤ s.varlist.length) → ∀ s ∈ states, Coherent s := by
  induction ops with
  | nil =>
    intro s0 states hr _ _ _ s hs
    cases hr
    cases hs
  | cons op rest ih =>
    intro s0 states hr h0 ht0 hg s hs
    rw [runAll] at hr
    split at hr
    · rename_i s1 hst
      obtain ⟨tl, htl, rfl⟩ := Option.map_eq_some_iff.mp hr
      have hg1 := hg s1 List.mem_cons_self
      have hc1 := coherent_step s0 s1 op h0 ht0 hst hg1.2
      rcases List.mem_cons.mp hs with rfl | hmem
      · exact hc1
      · exact ih s1 tl htl hc1 hg1.1 (fun x hx => hg x (List.mem_cons_of_mem _ hx)) s hmem
    · cases hr

/-! ### non-vacuity, the recorded findings, the calls made in place -/

/-- a gridded file with two listed variables and one unlisted 2-D variable, two steps -/
def exSt : St :=
  { grid := true, nT := 2, nL := 2, nR := 2, nC := 3, nP := 0, varDim := 2,
    vars := [⟨"A0", stdG⟩, ⟨"A1", stdG⟩, ⟨"LAT2D", ["ROW", "COL"]⟩],
    tflag := some (2, [(2019365, 230000), (2020001, 0)]), nvars := 2, varlist := ["A0", "A1"],
    nrows := 2, ncols := 3, nlays := 2, vglvls := [1, 1/2, 0], sdate := 2019365, stime := 230000, tstep := 10000,
    xorig := 0, yorig := 0, xcell := 1000, ycell := 1000 }

theorem exSt_coherent : Coherent exSt ∧ TimeOk exSt := by
  have hg : ∀ r ∈ [((2019365 : Int), (230000 : Int)), (2020001, 0)], GoodFlag r.1 r.2 := by
    simp only [List.forall_mem_cons, GoodFlag]
    decide +kernel
  refine ⟨⟨rfl, rfl, ⟨_, rfl, rfl, fun r hr => (Option.some.inj hr).symm⟩, ?_, rfl, fun _ => ⟨rfl, rfl⟩, rfl⟩,
    hg (_, _) List.mem_cons_self, fun w rows h => ?_⟩
  · simp only [exSt, List.forall_mem_cons]
    decide +kernel
  · cases h
    exact hg

/-- two hypotheses of `coherent_run` on a real five-step history: no operation raises and every state keeps a listed
variable -/
example : ∃ states, runAll exSt [.copy, .slice { t := some (.int (-1)), c := some (.slc (some 1) none) },
    .rename "A0" "B", .stack .L, .apply .T .mean] = some states ∧ states.length = 5 ∧
    ∀ s ∈ states, 1 ≤ s.varlist.length := by
  decide +kernel

/-- **the side condition is real**: `eval` creating only a variable whose name has 17 characters leaves no
listed variable; `updatemeta` then keeps the VAR dimension (and TFLAG's second axis) at length 1 while NVARS
and VAR-LIST say 0 — the file is not coherent.  (Confirmed on the real code: recorded finding.) -/
theorem zero_listed_counterexample :
    ∃ s', opEval exSt "XXXXXXXXXXXXXXXXX" "A0" false = some s' ∧ s'.varlist = [] ∧ s'.nvars = 0 ∧
      s'.varDim = 1 ∧ ¬ Coherent s' := by
  have h : ∃ s', opEval exSt "XXXXXXXXXXXXXXXXX" "A0" false = some s' ∧ s'.varlist = [] ∧ s'.nvars = 0 ∧
      s'.varDim = 1 := by
    decide +kernel
  obtain ⟨s', h1, h2, h3, h4⟩ := h
  refine ⟨s', h1, h2, h3, h4, fun hc => ?_⟩
  have h5 := hc.varDim
  rw [h4, h2] at h5
  exact absurd h5 (by decide)

/-- `createVariable` / `copyVariable` IN PLACE followed by `updatemeta()` -/
theorem coherent_create_then_updatemeta (s : St) (v : DVar) (h : Coherent s) (ht : TimeOk s)
    (hn : 1 ≤ (updatemeta (putVar s v)).varlist.length) : Coherent (updatemeta (putVar s v)) :=
  Settled.coherent (.of_frame (frame_putVar s v) (tflag_putVar s v) (h.ready ht.1)) hn

/-- **in place, `createVariable` alone does not restore the property**: the new variable is listed and counted, the VAR
dimension and the second axis of TFLAG keep their length until `updatemeta()` is called (recorded finding; the
docstring of `createVariable` promises otherwise) -/
theorem create_variable_counterexample :
    (putVar exSt ⟨"NEW", stdG⟩).nvars = 3 ∧ (putVar exSt ⟨"NEW", stdG⟩).varDim = 2 ∧ ¬ Coherent (putVar exSt ⟨"NEW", stdG⟩) ∧
      Coherent (updatemeta (putVar exSt ⟨"NEW", stdG⟩)) := by
  refine ⟨by decide +kernel, by decide +kernel, ?_, ?_⟩
  · intro h
    have h2 := h.varDim
    revert h2
    decide +kernel
  · exact coherent_create_then_updatemeta exSt _ exSt_coherent.1 exSt_coherent.2 (by decide +kernel)

/-- **a copy without variables keeps the variable list of its source**: NVARS is 0 while VAR-LIST still names the
source's variables, none of which exists (recorded finding; the list is what keeps the VAR dimension at the right length
for the callers that fill the copy) -/
theorem copy_novars_counterexample :
    (copyNoVars exSt).nvars = 0 ∧ (copyNoVars exSt).varlist = ["A0", "A1"] ∧ (copyNoVars exSt).vars = [] ∧
      ¬ Coherent (copyNoVars exSt) := by
  refine ⟨by decide +kernel, by decide +kernel, by decide +kernel, ?_⟩
  intro h
  have h1 := h.nvars
  revert h1
  decide +kernel

/-- assigning the level-edge attribute in place (same number of edges) keeps the property -/
theorem coherent_setvg (s : St) (lv : List Rat) (h : Coherent s) (hl : lv.length = s.nL + 1) :
    Coherent (setVglvls s lv) := by
  obtain ⟨h1, h2, h3, h4, h5, h6, _⟩ := h
  exact ⟨h1, h2, h3, h4, h5, h6, hl⟩

/-- **the point extraction leaves no listed variable**: every variable that had ROW / COL is carried by POINTS afterwards,
so (unless a gridded file holds a variable on the boundary dimensions) none has standard dimensions and `updatemeta()`
lists none — the state of the recorded finding `zero-listed-variables` -/
theorem points_unlists (s s' : St) (h : opPoints s = some s') (hb : ∀ v ∈ s.vars, v.dims ≠ stdB) :
    s'.varlist = [] := by
  unfold opPoints at h
  split at h
  · cases h
  · cases h
    rw [(norm_updatemeta _).2]
    refine List.filter_eq_nil_iff.mpr fun k _ hk => ?_
    -- a listed name would belong to a variable with standard dimensions
    obtain ⟨w, hw, hp⟩ := List.any_eq_true.mp (Bool.and_eq_true_iff.mp hk).1
    obtain ⟨v, hv, rfl⟩ := mem_vars_pointsPre s w hw
    exact absurd (Bool.and_eq_true_iff.mp hp).2 (by simp [isStd, pointsVar, pointsDims_not_std v.dims (hb v hv)])

/-- non-vacuity of `points_unlists`: the example file -/
example : ∃ s', opPoints exSt = some s' ∧ s'.varlist = [] ∧ s'.nvars = 0 ∧ s'.varDim = 1 := by
  decide +kernel

/-- **tie to the source** (regenerated from `ioapi_base.getVarlist` on every run): the dimension tuples a listed variable
must have and the longest listable name are the ones the model's `isStd` / `listable` use -/
theorem std_dims_match_source : Generated.ioapiStdDims = [stdG, stdB] ∧ Generated.ioapiNameMax = some 16 :=
  ⟨rfl, rfl⟩

end Props.C10
