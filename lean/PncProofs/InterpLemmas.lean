import PncModel.Interp
import PncProofs.ListLemmas
import Mathlib.Tactic.Ring
import Mathlib.Algebra.Order.Ring.Rat
import Mathlib.Tactic.FieldSimp
import Mathlib.Algebra.Order.Field.Basic

/-! `dot` / `sum` algebra; a column of `col` is zero outside the cell the search stops at (`col_seg`), whence length, sum
one, exactness on linear profiles and non-negativity inside the range; a descending source is the reversed case. -/

namespace Interp

def Asc : List ℚ → Prop
  | a :: b :: rest => a < b ∧ Asc (b :: rest)
  | _ => True

theorem isAsc_iff : ∀ l : List ℚ, isAsc l = true ↔ Asc l
  | [] => iff_of_true rfl trivial
  | [_] => iff_of_true rfl trivial
  | a :: b :: rest => by rw [isAsc, Asc, Bool.and_eq_true, decide_eq_true_iff, isAsc_iff (b :: rest)]

theorem asc_iff_pairwise (l : List ℚ) : Asc l ↔ l.Pairwise (· < ·) :=
  List.pairwise_of_rec trivial (fun _ => trivial) (fun _ _ _ => Iff.rfl) l

theorem Asc.getElem_lt {xs : List ℚ} (h : Asc xs) {i j : ℕ} (hj : j < xs.length) (hij : i < j) :
    xs[i]'(hij.trans hj) < xs[j] :=
  List.pairwise_iff_getElem.mp ((asc_iff_pairwise xs).mp h) i j (hij.trans hj) hj hij

@[simp] theorem sum_nil : sum [] = 0 := rfl
@[simp] theorem sum_cons (a : ℚ) (l : List ℚ) : sum (a :: l) = a + sum l := rfl

-- `sum` is the library's `List.sum`
theorem sum_append (a b : List ℚ) : sum (a ++ b) = sum a + sum b := List.sum_append
theorem sum_reverse (l : List ℚ) : sum l.reverse = sum l := List.sum_reverse l

theorem zeros_succ (n : ℕ) : zeros (n + 1) = 0 :: zeros n := rfl

@[simp] theorem sum_zeros : ∀ n : ℕ, sum (zeros n) = 0
  | 0 => rfl
  | n + 1 => by rw [zeros_succ, sum_cons, sum_zeros n, add_zero]

theorem dot_nil_right (w : List ℚ) : dot w [] = 0 := by cases w <;> rfl

theorem dot_comm : ∀ a b : List ℚ, dot a b = dot b a
  | [], b => (dot_nil_right b).symm
  | _ :: _, [] => rfl
  | a :: as, b :: bs => by rw [dot, dot, dot_comm as bs, mul_comm]

theorem dot_zeros_append : ∀ (i : ℕ) (w ys : List ℚ), dot (zeros i ++ w) ys = dot w (ys.drop i)
  | 0, _, _ => rfl
  | i + 1, w, [] => by rw [List.drop_nil, dot_nil_right, dot_nil_right]
  | i + 1, w, y :: ys => by
    rw [zeros_succ, List.cons_append, List.drop_succ_cons, dot, dot_zeros_append i, zero_mul, zero_add]

@[simp] theorem dot_zeros (n : ℕ) (l : List ℚ) : dot (zeros n) l = 0 := by
  rw [← List.append_nil (zeros n), dot_zeros_append]
  rfl

theorem dot_replicate_left (c : ℚ) : ∀ (n : ℕ) (l : List ℚ), l.length ≤ n →
    dot (List.replicate n c) l = c * sum l
  | _, [], _ => by rw [dot_nil_right, sum_nil, mul_zero]
  | 0, _ :: _, h => absurd h (Nat.not_succ_le_zero _)
  | n + 1, a :: l, h => by
    rw [List.replicate_succ, dot, dot_replicate_left c n l (Nat.le_of_succ_le_succ h), sum_cons, mul_add]

theorem sum_zipWith_eq_dot : ∀ (a b : List ℚ), sum (List.zipWith (· * ·) a b) = dot a b
  | [], _ => rfl
  | _ :: _, [] => rfl
  | a :: as, b :: bs => by rw [List.zipWith_cons_cons, sum_cons, sum_zipWith_eq_dot as bs, dot]

theorem dot_zipWith_assoc : ∀ (a b c : List ℚ),
    dot a (List.zipWith (· * ·) b c) = dot (List.zipWith (· * ·) a b) c
  | [], _, _ => rfl
  | _ :: _, [], _ => rfl
  | _ :: _, _ :: _, [] => rfl
  | a :: as, b :: bs, c :: cs => by
    rw [List.zipWith_cons_cons, List.zipWith_cons_cons, dot, dot, dot_zipWith_assoc as bs cs, mul_assoc]

theorem dot_map_div {α : Type} (f g : α → ℚ) : ∀ l : List α, (∀ a ∈ l, g a ≠ 0) →
    dot (l.map fun a => f a / g a) (l.map g) = sum (l.map f)
  | [], _ => rfl
  | a :: l, h => by
    rw [List.map_cons, List.map_cons, List.map_cons, dot, sum_cons,
      dot_map_div f g l fun b hb => h b (List.mem_cons_of_mem _ hb), div_mul_cancel₀ _ (h a List.mem_cons_self)]

theorem sum_map_div (l : List ℚ) (s : ℚ) : sum (l.map (· / s)) = sum l / s := by
  induction l with
  | nil => exact (zero_div s).symm
  | cons a l ih => rw [List.map_cons, sum_cons, sum_cons, ih, add_div]

/-- the two-node and the many-node clause of `col` in one -/
theorem col_cons_of_le {x0 x1 t : ℚ} (rest : List ℚ) (h : t ≤ x1) : col (x0 :: x1 :: rest) t =
    (1 - (t - x0) / (x1 - x0)) :: (t - x0) / (x1 - x0) :: zeros rest.length := by
  cases rest with
  | nil => rfl
  | cons x2 rest => rw [col, if_pos h]; rfl

/-- Zero outside the cell the search stops at; no monotonicity needed. `i < xs.length` is bound as well so that `xs[i]`
needs no arithmetic to elaborate. -/
theorem col_seg : ∀ (xs : List ℚ) (t : ℚ), 2 ≤ xs.length →
    ∃ (i : ℕ) (_ : i < xs.length) (_ : i + 1 < xs.length),
      col xs t = zeros i ++ (1 - (t - xs[i]) / (xs[i + 1] - xs[i])) ::
        (t - xs[i]) / (xs[i + 1] - xs[i]) :: zeros (xs.length - (i + 2))
  | [] => fun _ h => absurd h (Nat.not_succ_le_zero 1)
  | [_] => fun _ h => absurd h (Nat.not_succ_le_self 1)
  | [x0, x1] => fun t _ => ⟨0, Nat.succ_pos 1, Nat.lt_succ_self 1, rfl⟩
  | x0 :: x1 :: x2 :: rest => fun t _ => by
    by_cases h : t ≤ x1
    · exact ⟨0, Nat.succ_pos _, Nat.succ_lt_succ (Nat.succ_pos _), col_cons_of_le _ h⟩
    · obtain ⟨i, hi0, hi, e⟩ := col_seg (x1 :: x2 :: rest) t (Nat.le_add_left _ _)
      refine ⟨i + 1, Nat.succ_lt_succ hi0, Nat.succ_lt_succ hi, ?_⟩
      rw [col, if_neg h, e, List.length_cons (a := x0), Nat.add_sub_add_right]
      rfl

theorem one_or_two_le {xs : List ℚ} (h : xs ≠ []) : (∃ x, xs = [x]) ∨ 2 ≤ xs.length :=
  match xs, h with
  | [x], _ => Or.inl ⟨x, rfl⟩
  | _ :: _ :: _, _ => Or.inr (Nat.le_add_left _ _)

theorem col_length (xs : List ℚ) (t : ℚ) (h : xs ≠ []) : (col xs t).length = xs.length := by
  obtain ⟨x, rfl⟩ | h := one_or_two_le h
  · rfl
  · obtain ⟨i, _, hi, e⟩ := col_seg xs t h
    simp only [e, zeros, List.length_append, List.length_cons, List.length_replicate]
    omega

theorem col_sum (xs : List ℚ) (t : ℚ) (h : xs ≠ []) : sum (col xs t) = 1 := by
  obtain ⟨x, rfl⟩ | h := one_or_two_le h
  · exact add_zero 1
  · obtain ⟨i, _, _, e⟩ := col_seg xs t h
    rw [e, sum_append, sum_zeros, sum_cons, sum_cons, sum_zeros, zero_add, add_zero, sub_add_cancel]

theorem col_dot_linear (a b : ℚ) (xs : List ℚ) (t : ℚ) (h : 2 ≤ xs.length) (hs : Asc xs) :
    dot (col xs t) (xs.map (fun x => a * x + b)) = a * t + b := by
  obtain ⟨i, hi0, hi, e⟩ := col_seg xs t h
  have hne : xs[i + 1] - xs[i] ≠ 0 := (sub_pos.mpr (hs.getElem_lt hi (Nat.lt_succ_self i))).ne'
  rw [e, dot_zeros_append, ← List.map_drop, List.drop_eq_getElem_cons hi0,
    List.drop_eq_getElem_cons hi, List.map_cons, List.map_cons, dot, dot, dot_zeros]
  field_simp
  ring

theorem zeros_nonneg (n : ℕ) : ∀ w ∈ zeros n, (0 : ℚ) ≤ w := fun _ hw => (List.eq_of_mem_replicate hw).ge

theorem cell_nonneg {a b t : ℚ} (hab : a < b) (ha : a ≤ t) (hb : t ≤ b) (m : ℕ) :
    ∀ w ∈ (1 - (t - a) / (b - a)) :: (t - a) / (b - a) :: zeros m, 0 ≤ w :=
  List.forall_mem_cons.mpr ⟨sub_nonneg.mpr (div_le_one_of_le₀ (sub_le_sub_right hb a) (sub_pos.mpr hab).le),
    List.forall_mem_cons.mpr ⟨div_nonneg (sub_nonneg.mpr ha) (sub_pos.mpr hab).le, zeros_nonneg m⟩⟩

/-- inside the source range the search stops at a cell that contains the target -/
theorem col_nonneg_inside : ∀ (xs : List ℚ) (t : ℚ) (hne : xs ≠ []), Asc xs → xs.head hne ≤ t →
    t ≤ xs.getLast hne → ∀ w ∈ col xs t, 0 ≤ w
  | [] => fun _ h => absurd rfl h
  | [_] => fun _ _ _ _ _ w hw => List.mem_singleton.mp hw ▸ zero_le_one
  | [x0, x1] => fun t _ hs h0 h1 => cell_nonneg hs.1 h0 h1 0
  | x0 :: x1 :: x2 :: rest => fun t _ hs h0 h1 => by
    rw [col]
    split_ifs with h
    · exact cell_nonneg hs.1 h0 h (rest.length + 1)
    · exact List.forall_mem_cons.mpr ⟨le_rfl,
        col_nonneg_inside (x1 :: x2 :: rest) t (List.cons_ne_nil _ _) hs.2 (not_le.mp h).le h1⟩

theorem sum_le_sum_clip (l : List ℚ) : sum l ≤ sum (l.map (max 0)) := by
  induction l with
  | nil => exact le_rfl
  | cons a l ih => exact add_le_add (le_max_right 0 a) ih

theorem sum_clip_nonneg (l : List ℚ) : 0 ≤ sum (l.map (max 0)) := by
  induction l with
  | nil => exact le_rfl
  | cons a l ih => exact add_nonneg (le_max_left 0 a) ih

theorem clipNorm_sum (w : List ℚ) (h : sum w = 1) : sum (clipNorm w) = 1 := by
  rw [clipNorm, sum_map_div]
  exact div_self (zero_lt_one.trans_le (h ▸ sum_le_sum_clip w)).ne'

theorem clipNorm_nonneg (w : List ℚ) : ∀ v ∈ clipNorm w, 0 ≤ v := by
  intro v hv
  obtain ⟨c, hc, rfl⟩ := List.mem_map.mp hv
  obtain ⟨x, -, rfl⟩ := List.mem_map.mp hc
  exact div_nonneg (le_max_left 0 x) (sum_clip_nonneg w)

theorem clipNorm_id (w : List ℚ) (hs : sum w = 1) (h : ∀ v ∈ w, 0 ≤ v) : clipNorm w = w := by
  have hc : w.map (max 0) = w := (List.map_congr_left fun v hv => max_eq_right (h v hv)).trans (List.map_id w)
  rw [clipNorm, hc, hs]
  exact (List.map_congr_left fun v _ => div_one v).trans (List.map_id w)

theorem weightsAsc_eq_col (ex : Bool) (xs : List ℚ) (t : ℚ) (h : xs ≠ [])
    (hn : ex = true ∨ ∀ w ∈ col xs t, 0 ≤ w) : weightsAsc ex xs t = col xs t := by
  unfold weightsAsc
  split_ifs with hex
  · rfl
  · exact clipNorm_id _ (col_sum xs t h) (hn.resolve_left hex)

theorem weightsAsc_sum (ex : Bool) (xs : List ℚ) (t : ℚ) (h : xs ≠ []) : sum (weightsAsc ex xs t) = 1 := by
  unfold weightsAsc
  split_ifs
  · exact col_sum xs t h
  · exact clipNorm_sum _ (col_sum xs t h)

theorem weightsAsc_length (ex : Bool) (xs : List ℚ) (t : ℚ) (h : xs ≠ []) :
    (weightsAsc ex xs t).length = xs.length := by
  unfold weightsAsc clipNorm
  split_ifs
  · exact col_length xs t h
  · rw [List.length_map, List.length_map, col_length xs t h]

theorem weightsAsc_linear (ex : Bool) (a b : ℚ) (xs : List ℚ) (t : ℚ) (hne : xs ≠ []) (h : 2 ≤ xs.length)
    (hs : Asc xs) (hin : ex = true ∨ xs.head hne ≤ t ∧ t ≤ xs.getLast hne) :
    dot (weightsAsc ex xs t) (xs.map (fun x => a * x + b)) = a * t + b := by
  rw [weightsAsc_eq_col ex xs t hne (hin.imp_right fun hr => col_nonneg_inside xs t hne hs hr.1 hr.2)]
  exact col_dot_linear a b xs t h hs

/-- a descending source is the reversed ascending case -/
theorem weights_ind {P : List ℚ → Prop} (hrev : ∀ l, P l → P l.reverse) {ex : Bool} {xs : List ℚ} {t : ℚ}
    (h : P (weightsAsc ex xs t)) (hr : P (weightsAsc ex xs.reverse t)) : P (weights ex xs t) := by
  unfold weights
  split_ifs
  · exact h
  · exact hrev _ hr

theorem weights_sum (ex : Bool) (xs : List ℚ) (t : ℚ) (h : xs ≠ []) : sum (weights ex xs t) = 1 :=
  weights_ind (P := fun l => sum l = 1) (fun l hl => (sum_reverse l).trans hl)
    (weightsAsc_sum ex xs t h) (weightsAsc_sum ex xs.reverse t (List.reverse_ne_nil_iff.mpr h))

theorem weights_length (ex : Bool) (xs : List ℚ) (t : ℚ) (h : xs ≠ []) :
    (weights ex xs t).length = xs.length :=
  weights_ind (P := fun l => l.length = xs.length) (fun _ hl => List.length_reverse.trans hl)
    (weightsAsc_length ex xs t h)
    ((weightsAsc_length ex xs.reverse t (List.reverse_ne_nil_iff.mpr h)).trans List.length_reverse)

/-- with data on every source level no weight is cut off -/
theorem linearApply_map (ex : Bool) (xs nxs : List ℚ) (f : ℚ → ℚ) (h : xs ≠ []) :
    linearApply ex xs nxs (xs.map f) = nxs.map fun t => dot (weights ex xs t) (xs.map f) := by
  unfold linearApply weightMatrix
  rw [List.map_map]
  refine List.map_congr_left fun t _ => ?_
  rw [Function.comp, List.length_map, ← weights_length ex xs t h, List.take_length]

theorem linearApply_linear (ex : Bool) (a b : ℚ) (xs nxs : List ℚ) (hne : xs ≠ []) (h : 2 ≤ xs.length)
    (hs : Asc xs) (hin : ex = true ∨ ∀ t ∈ nxs, xs.head hne ≤ t ∧ t ≤ xs.getLast hne) :
    linearApply ex xs nxs (xs.map (fun x => a * x + b)) = nxs.map (fun t => a * t + b) := by
  rw [linearApply_map ex xs nxs _ hne]
  refine List.map_congr_left fun t ht => ?_
  rw [weights, if_pos ((isAsc_iff xs).mpr hs)]
  exact weightsAsc_linear ex a b xs t hne h hs (hin.imp_right fun hr => hr t ht)

theorem linearApply_const (ex : Bool) (c : ℚ) (xs nxs : List ℚ) (h : xs ≠ []) :
    linearApply ex xs nxs (xs.map (fun _ => c)) = nxs.map (fun _ => c) := by
  rw [linearApply_map ex xs nxs _ h]
  refine List.map_congr_left fun t _ => ?_
  rw [List.map_const', dot_comm, dot_replicate_left c _ _ (weights_length ex xs t h).le, weights_sum ex xs t h,
    mul_one]

end Interp
