import PncModel.Arl
import Mathlib.Data.Rat.Floor

/-! One packing step keeps the running reconstruction within half a step of the input (`packElem_step`), rows and fields
follow by induction; the decoder retraces the packer (`unpackRows_packRows`). -/

namespace Arl

theorem trunc0_eq_floor (q : ℚ) (h : 0 ≤ q) : trunc0 q = ⌊q⌋ := by
  rw [trunc0, Rat.floor_def']
  exact Int.tdiv_eq_ediv_of_nonneg (Rat.num_nonneg.mpr h)

/-- post-condition of one packed element: half a step from the input, byte in range -/
def ElemOK (s : ℚ) (x : ℚ) (p : ℤ × ℚ) : Prop := |p.2 - x| * s ≤ 1 / 2 ∧ 0 ≤ p.1 ∧ p.1 ≤ 255

theorem abs_mul_of_pos {s : ℚ} (hs : 0 < s) (a : ℚ) : |a| * s = |a * s| := by rw [abs_mul, abs_of_pos hs]

/-- A difference `d` to the running reconstruction of at most 127.5 steps: the number truncated is non-negative,
where `INT` is the floor, so the packed integer is `round d + 127`. -/
theorem packElem_ok (s rold x : ℚ) (hs : 0 < s) (h : |(x - rold) * s| ≤ 255 / 2) :
    ElemOK s x (packElem s rold x) := by
  obtain ⟨d, hd⟩ : ∃ d, d = (x - rold) * s := ⟨_, rfl⟩
  rw [← hd] at h
  obtain ⟨hlo, hhi⟩ := abs_le.mp h
  have h0 : 0 ≤ d + 255 / 2 := neg_le_iff_add_nonneg.mp hlo
  have h1 : d + 255 / 2 ≤ 255 := (add_le_add_left hhi _).trans_eq (add_halves 255)
  have hic : ⌊d + 255 / 2⌋ = round d + 127 := by
    rw [round_eq, ← Int.floor_add_ofNat, add_assoc]
    norm_num
  have herr : (((round d : ℤ) : ℚ) / s + rold - x) * s = round d - d := by
    rw [add_sub_assoc, add_mul, div_mul_cancel₀ _ hs.ne', ← neg_sub x, neg_mul, ← hd, sub_eq_add_neg]
  unfold ElemOK packElem
  dsimp only
  rw [← hd, trunc0_eq_floor _ h0]
  refine ⟨?_, Int.floor_nonneg.mpr h0, (Int.floor_mono h1).trans_eq (Int.floor_ofNat 255)⟩
  rw [hic, add_sub_cancel_right, abs_mul_of_pos hs, herr, abs_sub_comm]
  exact abs_sub_round d

/-- The invariant of the scan: the running reconstruction `rold` is within half a step of the element
before (`prev`), so a neighbour difference of at most 127 steps is at most 127.5 steps from `rold`. -/
theorem packElem_step (s prev rold x : ℚ) (hs : 0 < s)
    (he : |rold - prev| * s ≤ 1 / 2) (hd : |x - prev| * s ≤ 127) :
    ElemOK s x (packElem s rold x) := by
  rw [abs_mul_of_pos hs] at he hd
  refine packElem_ok s rold x hs ?_
  calc |(x - rold) * s| = |(x - prev) * s - (rold - prev) * s| := by rw [← sub_mul, sub_sub_sub_cancel_right]
    _ ≤ |(x - prev) * s| + |(rold - prev) * s| := abs_sub _ _
    _ ≤ 127 + 1 / 2 := add_le_add hd he
    _ = 255 / 2 := by norm_num

/-- the first element of a field; also for `s = 0` -/
theorem packElem_self (s x : ℚ) : packElem s x x = (127, x) := by
  have h127 : trunc0 (255 / 2 : ℚ) = 127 := by decide +kernel
  unfold packElem
  dsimp only
  rw [sub_self, zero_mul, zero_add, h127, sub_self, Int.cast_zero, zero_div, zero_add]

theorem packRow_ok (s : ℚ) (hs : 0 < s) : ∀ (xs : List ℚ) (prev rold : ℚ),
    |rold - prev| * s ≤ 1 / 2 → (∀ d ∈ rowDiffs prev xs, |d| * s ≤ 127) →
    List.Forall₂ (ElemOK s) xs (packRow s rold xs)
  | [] => fun _ _ _ _ => .nil
  | x :: xs => fun prev rold he hd =>
    have hx := packElem_step s prev rold x hs he (hd _ List.mem_cons_self)
    .cons hx (packRow_ok s hs xs x _ hx.1 fun d hdm => hd d (List.mem_cons_of_mem _ hdm))

theorem fieldDiffs_cons_cons (pcol x : ℚ) (xs : List ℚ) (rest : List (List ℚ)) :
    fieldDiffs pcol ((x :: xs) :: rest) = rowDiffs pcol (x :: xs) ++ fieldDiffs x rest := rfl

theorem packRows_ok (s : ℚ) (hs : 0 < s) : ∀ (f : List (List ℚ)) (pcol rcol : ℚ),
    |rcol - pcol| * s ≤ 1 / 2 → (∀ d ∈ fieldDiffs pcol f, |d| * s ≤ 127) →
    List.Forall₂ (List.Forall₂ (ElemOK s)) f (packRows s rcol f)
  | [] => fun _ _ _ _ => .nil
  | [] :: rest => fun pcol rcol he hd => .cons .nil (packRows_ok s hs rest pcol rcol he hd)
  | (x :: xs) :: rest => fun pcol rcol he hd => by
    rw [fieldDiffs_cons_cons] at hd
    have hrow := packRow_ok s hs (x :: xs) pcol rcol he fun d hdm => hd d (List.mem_append_left _ hdm)
    have hx : ElemOK s x (packElem s rcol x) := by cases hrow; assumption
    exact .cons hrow (packRows_ok s hs rest x _ hx.1 fun d hdm => hd d (List.mem_append_right _ hdm))

/-- the decoder, run on the packed integers, retraces the packer's running reconstruction -/
theorem unpackRow_packRow (s : ℚ) : ∀ (xs : List ℚ) (rold : ℚ),
    unpackRow s rold ((packRow s rold xs).map (·.1)) = (packRow s rold xs).map (·.2)
  | [], _ => rfl
  | x :: xs, rold => congrArg (_ :: ·) (unpackRow_packRow s xs (packElem s rold x).2)

theorem unpackRows_packRows (s : ℚ) : ∀ (f : List (List ℚ)) (rcol : ℚ),
    unpackRows s rcol ((packRows s rcol f).map (·.map (·.1))) = recon (packRows s rcol f)
  | [], _ => rfl
  | [] :: rest, rcol => congrArg ([] :: ·) (unpackRows_packRows s rest rcol)
  | (x :: xs) :: rest, rcol =>
    congrArg₂ (· :: ·) (unpackRow_packRow s (x :: xs) rcol)
      (unpackRows_packRows s rest (packElem s rcol x).2)

theorem bytes_eq (p : List (List (ℤ × ℚ))) (h : ∀ row ∈ p, ∀ e ∈ row, 0 ≤ e.1 ∧ e.1 ≤ 255) :
    bytes p = p.map (·.map (·.1)) :=
  List.map_congr_left fun row hr => List.map_congr_left fun e he => by
    have := h row hr e he
    unfold toByte
    omega

end Arl
