import PncProofs.ArrLemmas

/-!
The zipped (pointwise) selection `Arr.zipSel` and its points `Arr.pointSel`: shape and element-wise meaning. On a kept
axis both do what `orth` does, `(pick s xs).mapM F |>.map node` with `F` the rest of the selection.
-/

namespace Arr
variable {α : Type}

/-- the selections of a zipped slice whose lists lie inside the axes -/
def ZSelsIn : List Sel → List Nat → Prop
  | Sel.keep s :: rest, n :: sh => (∀ i ∈ s, i < n) ∧ ZSelsIn rest sh
  | Sel.zip s :: rest, n :: sh => (∀ i ∈ s, i < n) ∧ ZSelsIn rest sh
  | _ :: _, [] => False
  | [], _ => True

/-- shape of one point of the zipped selection: kept axes with the selected lengths, zipped axes dropped -/
def pointShape : List Sel → List Nat → List Nat
  | Sel.keep s :: rest, _ :: sh => s.length :: pointShape rest sh
  | Sel.zip _ :: rest, _ :: sh => pointShape rest sh
  | _, sh => sh

/-- shape of the zipped selection: the new axis (length `L`) where the first zipped axis was -/
def zipShape (L : Nat) : List Sel → List Nat → List Nat
  | Sel.keep s :: rest, _ :: sh => s.length :: zipShape L rest sh
  | Sel.zip s :: rest, n :: sh => L :: pointShape (Sel.zip s :: rest) (n :: sh)
  | _, sh => sh

/-- source index of a cell of one point of the zipped selection -/
def pointIdx (p : Nat) : List Sel → List Nat → Option (List Nat)
  | Sel.keep s :: rest, j :: idx => match s[j]?, pointIdx p rest idx with
    | some i, some r => some (i :: r)
    | _, _ => none
  | Sel.zip s :: rest, idx => match s[p]?, pointIdx p rest idx with
    | some i, some r => some (i :: r)
    | _, _ => none
  | [], idx => some idx
  | Sel.keep _ :: _, [] => none

/-- source index of a cell of the zipped selection: the position on the new axis picks the `p`-th entry of every
zipped list, the other positions index the kept lists -/
def zipIdx : List Sel → List Nat → Option (List Nat)
  | Sel.keep s :: rest, j :: idx => match s[j]?, zipIdx rest idx with
    | some i, some r => some (i :: r)
    | _, _ => none
  | Sel.zip s :: rest, p :: idx => pointIdx p (Sel.zip s :: rest) idx
  | [], idx => some idx
  | _ :: _, [] => none

/-- every zipped list has the common length `L` -/
def ZLen (L : Nat) : List Sel → Prop
  | Sel.zip s :: rest => s.length = L ∧ ZLen L rest
  | Sel.keep _ :: rest => ZLen L rest
  | [] => True

theorem not_zSelsIn_cons_nil (s : Sel) (ss : List Sel) : ¬ ZSelsIn (s :: ss) [] := by
  cases s <;> exact id

/-! ### shapes when the selections are given per name

Axes named by `ds`, axis `k` selected by the list `l k`, zipped when `z k`; the new axis follows the kept axes that precede
the first zipped one, `(ds.map z).idxOf true` of them. -/

theorem pointShape_map {κ} (z : κ → Bool) (l : κ → List Nat) (flen : κ → Nat) : ∀ (ds : List κ),
    pointShape (ds.map fun k => if z k then Sel.zip (l k) else Sel.keep (l k)) (ds.map flen) =
      (ds.filter fun k => !z k).map fun k => (l k).length := by
  intro ds
  induction ds with
  | nil => rfl
  | cons d ds ih =>
    rw [List.map_cons, List.map_cons, List.filter_cons]
    -- a zipped axis is dropped, a kept axis contributes the length of its selection
    cases hz : z d with
    | true => exact ih
    | false => exact congrArg ((l d).length :: ·) ih

theorem zipShape_map {κ} (L : Nat) (z : κ → Bool) (l : κ → List Nat) (flen : κ → Nat) : ∀ (ds : List κ),
    (∃ k ∈ ds, z k = true) →
    zipShape L (ds.map fun k => if z k then Sel.zip (l k) else Sel.keep (l k)) (ds.map flen) =
      ((ds.filter fun k => !z k).map fun k => (l k).length).take ((ds.map z).idxOf true) ++
        L :: ((ds.filter fun k => !z k).map fun k => (l k).length).drop ((ds.map z).idxOf true) := by
  intro ds
  induction ds with
  | nil =>
    intro ⟨k, hk, _⟩
    cases hk
  | cons d ds ih =>
    intro hex
    rw [List.map_cons, List.map_cons, List.map_cons, List.filter_cons, List.idxOf_cons]
    -- at the first zipped axis the new axis, then the shape of a point; before it the kept axes one by one
    cases hz : z d with
    | true => exact congrArg (L :: ·) (pointShape_map z l flen ds)
    | false => exact congrArg ((l d).length :: ·) (ih (by simpa [hz] using hex))

theorem pointSel_zip (p : Nat) (s : List Nat) (rest : List Sel) (xs : List (Arr α)) :
    pointSel p (Sel.zip s :: rest) (node xs) = (s[p]?).bind fun i => (xs[i]?).bind (pointSel p rest) := by
  rw [pointSel]
  cases s[p]? with
  | none => rfl
  | some i =>
    dsimp only [Option.bind_some]
    cases xs[i]? <;> rfl

theorem pointSel_spec (p : Nat) : ∀ (ss : List Sel) (sh : List Nat) (a r : Arr α), hasShape sh a = true →
    ZSelsIn ss sh → pointSel p ss a = some r →
    hasShape (pointShape ss sh) r = true ∧ ∀ idx, get r idx = (pointIdx p ss idx).bind (get a) := by
  intro ss
  induction ss with
  | nil =>
    intro sh a r h _ hr
    obtain rfl : a = r := by simpa [pointSel] using hr
    exact ⟨h, fun _ => rfl⟩
  | cons s rest ih =>
    intro sh a r h hz hr
    obtain _ | ⟨n, sh⟩ := sh
    · exact (not_zSelsIn_cons_nil s rest hz).elim
    obtain ⟨xs, rfl, rfl, hx⟩ := hasShape_cons.mp h
    cases s with
    | keep s =>
      obtain ⟨hs, hrest⟩ := hz
      obtain ⟨out, hout, rfl⟩ := Option.map_eq_some_iff.mp hr
      replace ih := fun x hxm y => ih sh x y (hx x hxm) hrest
      refine ⟨?_, fun idx => ?_⟩
      · rw [pointShape, ← pick_length hs]
        exact hasShape_mapM hout fun x hxm y hy => (ih x (mem_pick hxm) y hy).1
      · cases idx with
        | nil => rfl
        | cons j idx => exact get_mapM_pick hs hout (fun x hxm y hy => (ih x hxm y hy).2 idx) j
    | zip s =>
      rw [pointSel_zip] at hr
      obtain ⟨i, hsp, hr⟩ := Option.bind_eq_some_iff.mp hr
      obtain ⟨x, hxi, hr⟩ := Option.bind_eq_some_iff.mp hr
      obtain ⟨ihs, ihg⟩ := ih sh x r (hx x (List.mem_of_getElem? hxi)) hz.2 hr
      refine ⟨ihs, fun idx => ?_⟩
      rw [pointIdx, hsp, ihg]
      cases pointIdx p rest idx with
      | none => rfl
      | some q => simp only [Option.bind_some, get_node, hxi]

theorem zipSel_shape (L : Nat) : ∀ (ss : List Sel) (sh : List Nat) (a r : Arr α), hasShape sh a = true →
    ZSelsIn ss sh → zipSel L ss a = some r → hasShape (zipShape L ss sh) r = true := by
  intro ss
  induction ss with
  | nil =>
    intro sh a r h _ hr
    obtain rfl : a = r := by simpa [zipSel] using hr
    exact h
  | cons s rest ih =>
    intro sh a r h hz hr
    obtain _ | ⟨n, sh⟩ := sh
    · exact (not_zSelsIn_cons_nil s rest hz).elim
    cases s with
    | keep s =>
      obtain ⟨xs, rfl, rfl, hx⟩ := hasShape_cons.mp h
      obtain ⟨out, hout, rfl⟩ := Option.map_eq_some_iff.mp hr
      rw [zipShape, ← pick_length hz.1]
      exact hasShape_mapM hout fun x hxm y => ih sh x y (hx x (mem_pick hxm)) hz.2
    | zip s =>
      obtain ⟨out, hout, rfl⟩ := Option.map_eq_some_iff.mp hr
      rw [zipShape, ← List.length_range (n := L)]
      exact hasShape_mapM hout fun p _ y hy => (pointSel_spec p _ _ a y h hz hy).1

/-- **zipped selection, element-wise.** The cell at an index of the result of a zipped (pointwise) selection is the
cell of the source whose index takes, on every zipped axis, the entry of that axis' list at the position on the new axis,
and on every other axis the entry of that axis' list at the corresponding position. -/
theorem zipSel_get (L : Nat) : ∀ (ss : List Sel) (sh : List Nat) (a r : Arr α) (idx : List Nat),
    hasShape sh a = true → ZSelsIn ss sh → ZLen L ss → zipSel L ss a = some r →
    get r idx = (zipIdx ss idx).bind (get a) := by
  intro ss
  induction ss with
  | nil =>
    intro sh a r idx _ _ _ hr
    obtain rfl : a = r := by simpa [zipSel] using hr
    rfl
  | cons s rest ih =>
    intro sh a r idx h hz hl hr
    obtain _ | ⟨n, sh⟩ := sh
    · exact (not_zSelsIn_cons_nil s rest hz).elim
    cases s with
    | keep s =>
      obtain ⟨xs, rfl, rfl, hx⟩ := hasShape_cons.mp h
      obtain ⟨out, hout, rfl⟩ := Option.map_eq_some_iff.mp hr
      cases idx with
      | nil => rfl
      | cons j idx => exact get_mapM_pick hz.1 hout (fun x hxm y => ih sh x y idx (hx x hxm) hz.2 hl) j
    | zip s =>
      obtain ⟨out, hout, rfl⟩ := Option.map_eq_some_iff.mp hr
      cases idx with
      | nil => rfl
      | cons p q =>
        -- position `p` of the new axis is the point `p` of the selection, when there is one (`p < L`)
        have hout := List.mapM_option_eq_some.mp hout
        rw [get_node, zipIdx, List.getElem?_of_map_eq_map_some hout]
        by_cases hpL : p < L
        · obtain ⟨y, hy⟩ := List.exists_of_map_eq_map_some hout (List.mem_range.mpr hpL)
          rw [List.getElem?_range hpL, Option.bind_some, hy, Option.bind_some]
          exact (pointSel_spec p _ _ a y h hz hy).2 q
        · have h2 : s[p]? = none := List.getElem?_eq_none (by rw [hl.1]; exact Nat.le_of_not_lt hpL)
          rw [List.getElem?_eq_none (by rw [List.length_range]; exact Nat.le_of_not_lt hpL), pointIdx, h2]
          rfl

end Arr
