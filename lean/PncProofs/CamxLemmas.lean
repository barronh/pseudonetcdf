import PncModel.Camx.BoundaryRead
import PncProofs.WordsLemmas

/-! What several CAMx formats share on top of the framing library: cutting a flattened list of equal-length pieces
(`Slab.chunk`), the fields of a slab record, the variables of a slab view, and reading framed records by position
(`Boundary.cutRecs`). -/
namespace Slab
open Words

theorem chunk_flatten {α} (n : Nat) (hn : 0 < n) : ∀ (ps : List (List α)) (fuel : Nat),
    (∀ p ∈ ps, p.length = n) → ps.flatten.length ≤ fuel → chunk n ps.flatten fuel = ps
  | [], fuel, _, _ => by cases fuel <;> simp [chunk]
  | s :: rest, fuel, hlen, hfuel => by
    have hs : s.length = n := hlen s List.mem_cons_self
    rw [List.flatten_cons, List.length_append, hs] at hfuel
    obtain ⟨k, rfl⟩ : ∃ k, fuel = k + 1 := ⟨fuel - 1, by omega⟩
    rw [chunk, List.flatten_cons, if_neg (by rw [List.length_append, hs]; omega), List.take_left' hs, List.drop_left' hs,
      chunk_flatten n hn rest k (fun p hp => hlen p (List.mem_cons_of_mem _ hp)) (by omega)]

theorem recTD_frame (t d : Word) (c : List Word) : recTD (frame (t :: d :: c)) = (t, d) := by
  simp [recTD, frame]

theorem leading_run (x y : List Word) (a r : List (List Word)) (ha : ∀ z ∈ a, recTD z = recTD x)
    (hy : recTD y ≠ recTD x) : leading (x :: (a ++ y :: r)) = 1 + a.length := by
  rw [leading, List.takeWhile_stop (fun z => recTD z == recTD x) y r (beq_eq_false_iff_ne.mpr hy) a
    fun z hz => beq_iff_eq.mpr (ha z hz)]

theorem recCells_frame (t d : Word) (c : List Word) : recCells (frame (t :: d :: c)) = c := by
  simp [recCells, frame]

theorem viewOf_cons (k : Kind) {f : SFile} {s0 : Step} {tl : List Step} (hst : f.steps = s0 :: tl) :
    viewOf k f = (layersOf k s0.slabs.length).map (fun nz =>
      { nt := f.steps.length, nz := nz, flags := f.steps.map (fun s => (s.date, s.time)),
        vars := tl.foldl (fun acc st => mergeVars acc (stepVars k st.slabs)) (stepVars k s0.slabs) }) := by
  unfold viewOf
  rw [hst]

theorem foldl_merge1 (n1 : String) (a : Step → List (List Word)) : ∀ (rest : List Step) (A : List (List Word)),
    rest.foldl (fun acc st => mergeVars acc [(n1, a st)]) [(n1, A)] = [(n1, A ++ rest.flatMap a)] := by
  intro rest
  induction rest with
  | nil =>
    intro A
    simp
  | cons s rest ih =>
    intro A
    have e : mergeVars [(n1, A)] [(n1, a s)] = [(n1, A ++ a s)] := rfl
    rw [List.foldl_cons, e, ih]
    simp [List.append_assoc]

theorem foldl_merge2 (n1 n2 : String) (a b : Step → List (List Word)) : ∀ (rest : List Step) (A B : List (List Word)),
    rest.foldl (fun acc st => mergeVars acc [(n1, a st), (n2, b st)]) [(n1, A), (n2, B)] =
      [(n1, A ++ rest.flatMap a), (n2, B ++ rest.flatMap b)] := by
  intro rest
  induction rest with
  | nil =>
    intro A B
    simp
  | cons s rest ih =>
    intro A B
    have e : mergeVars [(n1, A), (n2, B)] [(n1, a s), (n2, b s)] = [(n1, A ++ a s), (n2, B ++ b s)] := rfl
    rw [List.foldl_cons, e, ih]
    simp [List.append_assoc]

theorem pickEvery_cons_cons (v : Nat) (a b : List Word) (rest : List (List Word)) :
    pickEvery v 2 (a :: b :: rest) = pickEvery v 2 [a, b] ++ pickEvery v 2 rest := by
  have hlen : (a :: b :: rest).length = 2 + rest.length := by
    rw [List.length_cons, List.length_cons]
    omega
  have hf : ((fun i => if i % 2 = v then (a :: b :: rest)[i]? else none) ∘ fun i => 2 + i) =
      fun i => if i % 2 = v then rest[i]? else none := by
    funext i
    show (if (2 + i) % 2 = v then (a :: b :: rest)[2 + i]? else none) = _
    rw [Nat.add_mod_left, Nat.add_comm 2 i]
    rfl
  unfold pickEvery
  rw [hlen, List.range_add, List.filterMap_append, List.filterMap_map, hf]
  rfl

theorem pickEvery_two (v : Nat) (hv : v < 2) : ∀ (L : Nat) (l : List (List Word)), l.length = L * 2 →
    pickEvery v 2 l = (List.range L).map (fun k => (l[k * 2 + v]?).getD [])
  | 0, l, hl => by
    rw [List.length_eq_zero_iff.mp (hl.trans (Nat.zero_mul 2))]
    rfl
  | L + 1, [], hl => by cases hl
  | L + 1, [_], hl => by
    rw [Nat.succ_mul] at hl
    cases hl
  | L + 1, a :: b :: rest, hl => by
    have hr : rest.length = L * 2 := by
      rw [List.length_cons, List.length_cons, Nat.succ_mul] at hl
      omega
    have hshift : ∀ k : Nat, (a :: b :: rest)[(k + 1) * 2 + v]? = rest[k * 2 + v]? := fun k => by
      rw [Nat.succ_mul, Nat.add_right_comm]
      rfl
    rw [pickEvery_cons_cons, pickEvery_two v hv L rest hr, List.range_succ_eq_map, List.map_cons, List.map_map]
    simp only [Function.comp_def, hshift]
    have hv2 : v = 0 ∨ v = 1 := by omega
    rcases hv2 with rfl | rfl <;> rfl

end Slab

/-! ### reading framed records by position -/
namespace Boundary
open Words

theorem cutRecs_encode : ∀ (ps : List (List Word)) (more : List Word),
    cutRecs (ps.map List.length) (encodeRecs ps ++ more) = (ps, more)
  | [], more => rfl
  | p :: ps, more => by
    simp only [List.map_cons, cutRecs, encodeRecs_cons, List.append_assoc, drop_frame, payload_frame,
      cutRecs_encode ps more]

theorem framedLen_encode : ∀ (ps : List (List Word)), framedLen (ps.map List.length) = (encodeRecs ps).length
  | [] => rfl
  | p :: ps => by
    simp only [List.map_cons, framedLen, encodeRecs_cons, List.length_append, frame_length, framedLen_encode ps]

theorem markersOk_encode : ∀ (ps : List (List Word)) (more : List Word),
    markersOk (ps.map List.length) (encodeRecs ps ++ more) = true
  | [], _ => rfl
  | p :: ps, more => by
    simp only [List.map_cons, markersOk, encodeRecs_cons, List.append_assoc, drop_frame, headD_frame,
      markersOk_encode ps more, decide_true, Bool.and_self]

theorem hdr_slices {ws h0 h1 h2 h3 body : List Word} {nspec : Nat}
    (h : cutRecs (hdrSizes nspec) ws = ([h0, h1, h2, h3], body)) :
    (ws.drop 1).take 76 = h0 ∧ (ws.drop 79).take 15 = h1 ∧ (ws.drop 96).take 4 = h2 ∧
      (ws.drop 102).take (10 * nspec) = h3 ∧ ws.drop (103 + 10 * nspec) = body := by
  simp only [hdrSizes, cutRecs, List.drop_drop, Prod.mk.injEq, List.cons.injEq, and_true] at h
  obtain ⟨⟨s0, s1, s2, s3⟩, hb⟩ := h
  refine ⟨s0, s1, s2, s3, ?_⟩
  rw [← hb]
  congr 1
  omega

end Boundary
