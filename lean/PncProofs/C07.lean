import PncModel.NcStore
import Mathlib.Tactic.SplitIfs

/-!
# C07 — saving to netCDF and reopening reproduces the file

The model (`NcStore.roundtrip`) is `reopen ∘ save`.  The theorems say that it is the identity — up to the
`_FillValue` attribute netCDF itself adds — on every file whose types the flavour can store, whose attribute
names do not start with an underscore and whose unmasked values do not collide with a value netCDF reads as
"missing" (`CellOk`: the decidable form of "representable").  No hypothesis relates `missing_value` and
`fill_value`: the repaired writer fills masked cells with the disk `_FillValue`; with the old precedence the
mask was lost (`mask_lost_counterexample`).
-/
namespace Props.C07
open NcStore

/-- a cell netCDF can give back: an unmasked value that is not one of the values read as missing; a masked
cell of a variable that has a fill (any of the three attributes) or whose type has a default fill -/
def CellOk (v : Var) : Option Rat → Prop
  | some x => diskFill v ≠ some x ∧ v.missing ≠ some x ∧ ¬ (diskFill v = none ∧ defaultFill v.dt = some x)
  | none => (diskFill v).isSome = true ∨ (defaultFill v.dt).isSome = true

theorem missing_none_of_diskFill_none {v : Var} (h : diskFill v = none) : v.missing = none := by
  unfold diskFill at h
  cases hm : v.missing with
  | none => rfl
  | some m =>
    rw [hm] at h
    exact nomatch h

/-- `libFill` and `writeFill` are one function, so a rank-0 variable is no case of its own -/
theorem saveCell_none (v : Var) : saveCell v none = writeFill v := ite_self _

/-- **cell level**: what is written for a cell is read back as that cell -/
theorem cell_roundtrip (v : Var) (c : Option Rat) (h : CellOk v c) :
    readCell v.dt (diskFill v) v.missing (saveCell v c) = c := by
  cases c with
  | some x =>
    obtain ⟨h1, h2, h3⟩ := h
    show readCell v.dt (diskFill v) v.missing x = some x
    rw [readCell, if_neg h1, if_neg h2, if_neg h3]
  | none =>
    rw [saveCell_none, writeFill, readCell]
    cases hd : diskFill v with
    | some d => exact if_pos rfl
    | none =>
      -- no fill on disk: the type's default fill is written, and only the third test can fire
      obtain ⟨x, hx⟩ := Option.isSome_iff_exists.mp (h.resolve_left (by rw [hd]; exact Bool.false_ne_true))
      rw [missing_none_of_diskFill_none hd, hx, if_neg (fun h => nomatch h), if_neg (fun h => nomatch h)]
      exact if_pos ⟨rfl, rfl⟩

/-- a variable netCDF can give back -/
structure VarOk (v : Var) : Prop where
  cells : ∀ c ∈ v.cells, CellOk v c
  attrs : ∀ a ∈ v.attrs, skipped a.1 = false
  plain : v.maskedArr = false → ∀ c ∈ v.cells, c ≠ none

theorem filter_skipped {l : List (String × String)} (h : ∀ a ∈ l, skipped a.1 = false) :
    l.filter (fun a => !skipped a.1) = l :=
  List.filter_eq_self.mpr fun a ha => by rw [h a ha]; rfl

/-- **variable level**: the variable is read back unchanged, with `_FillValue` = the disk fill -/
theorem var_roundtrip (v : Var) (h : VarOk v) : roundVar v = { v with ufill := diskFill v } := by
  have hcells : (if v.maskedArr then v.cells.map (fun c => readCell v.dt (diskFill v) v.missing (saveCell v c))
      else v.cells.map (readPlain v.dt (diskFill v) v.missing)) = v.cells := by
    split_ifs
    · exact (List.map_congr_left fun c hc => cell_roundtrip v c (h.cells c hc)).trans (List.map_id _)
    · refine (List.map_congr_left fun c hc => ?_).trans (List.map_id _)
      cases c with
      | none => rfl
      | some x => exact cell_roundtrip v (some x) (h.cells _ hc)
  unfold roundVar
  simp only
  rw [filter_skipped h.attrs, hcells]

/-- **file level (C07)**: save followed by reopen returns the same dimensions (names, order, lengths,
unlimited flags), the same global attributes, and every variable with its name, order, dtype, dimension tuple,
attributes, masks and values — for all files, any number of variables and cells. -/
theorem file_roundtrip (fl : Flavour) (f : File) (hrep : ∀ v ∈ f.vars, representableDt fl v.dt = true)
    (hg : ∀ a ∈ f.gattrs, skipped a.1 = false) (hv : ∀ v ∈ f.vars, VarOk v) :
    roundtrip fl f = some { f with vars := f.vars.map (fun v => { v with ufill := diskFill v }) } := by
  rw [roundtrip, if_pos (List.all_eq_true.mpr hrep), filter_skipped hg,
    List.map_congr_left fun v hvm => var_roundtrip v (hv v hvm)]

/-- a type the flavour cannot store makes `save` fail instead of storing something else -/
theorem unrepresentable_rejected (fl : Flavour) (f : File) (v : Var) (hv : v ∈ f.vars)
    (h : representableDt fl v.dt = false) : roundtrip fl f = none := by
  rw [roundtrip, if_neg fun hall => Bool.false_ne_true (h.symm.trans (List.all_eq_true.mp hall v hv))]

/-- a float variable with one masked cell, `missing_value = -998` and `fill_value = -999` -/
def exVar : Var :=
  { name := "W", dt := .f4, dims := ["y"], attrs := [("units", "s.707062")], missing := some (-998),
    fill := some (-999), ufill := none, maskedArr := true, cells := [some (1/2), none, some 3] }

theorem exVar_ok : VarOk exVar := by
  refine ⟨?_, ?_, ?_⟩
  · intro c hc
    simp only [exVar, List.mem_cons, List.mem_nil_iff, or_false] at hc
    rcases hc with rfl | rfl | rfl
    · exact ⟨by decide +kernel, by decide +kernel, fun h => absurd h.1 (by decide +kernel)⟩
    · left; decide +kernel
    · exact ⟨by decide +kernel, by decide +kernel, fun h => absurd h.1 (by decide +kernel)⟩
  · intro a ha
    simp only [exVar, List.mem_cons, List.mem_nil_iff, or_false] at ha
    subst ha
    decide +kernel
  · exact fun h => absurd h (by decide)

/-- **what the repair fixed**: with the old precedence (`fill_value` attribute first) the masked cell of
`exVar` is written as -999 while the disk `_FillValue` is -998, and is read back as the number -999. -/
theorem mask_lost_counterexample :
    readCell exVar.dt (diskFill exVar) exVar.missing (writeFillOld exVar) = some (-999) ∧
    readCell exVar.dt (diskFill exVar) exVar.missing (writeFill exVar) = none := by
  constructor <;> decide +kernel

theorem diskFill_withUfill (v : Var) : diskFill { v with ufill := diskFill v } = diskFill v := by
  unfold diskFill
  cases v.missing with
  | some m => rfl
  | none =>
    cases v.fill with
    | some f => rfl
    | none => rfl

theorem varOk_withUfill (v : Var) (h : VarOk v) : VarOk { v with ufill := diskFill v } := by
  refine ⟨fun c hc => ?_, h.attrs, h.plain⟩
  have hc0 := h.cells c hc
  cases c <;> simpa only [CellOk, diskFill_withUfill] using hc0

/-- **second cycle (C07)**: what a save/open cycle returns is a fixed point — saving the reopened file again and
reopening it returns the same file (dimensions, attributes, variables, masks, values and the `_FillValue`
attributes netCDF added the first time), for all files the first cycle accepts. -/
theorem second_cycle (fl : Flavour) (f : File) (hrep : ∀ v ∈ f.vars, representableDt fl v.dt = true)
    (hg : ∀ a ∈ f.gattrs, skipped a.1 = false) (hv : ∀ v ∈ f.vars, VarOk v) :
    ∃ g, roundtrip fl f = some g ∧ roundtrip fl g = some g := by
  have hrep' : ∀ v ∈ f.vars.map (fun v => { v with ufill := diskFill v }), representableDt fl v.dt = true :=
    List.forall_mem_map.mpr hrep
  have hv' : ∀ v ∈ f.vars.map (fun v => { v with ufill := diskFill v }), VarOk v :=
    List.forall_mem_map.mpr fun v h => varOk_withUfill v (hv v h)
  refine ⟨_, file_roundtrip fl f hrep hg hv, ?_⟩
  rw [file_roundtrip fl { f with vars := f.vars.map fun v => { v with ufill := diskFill v } } hrep' hg hv']
  simp only [List.map_map, Function.comp_def, diskFill_withUfill]

/-- **what the last repair fixed**: a float variable without any fill whose stored data hold netCDF's default fill
(cells never written) reads those cells as masked; written back with -9999 (`writeFill9999`) the cell is read as the
number -9999, written back with the default fill it is read as masked again -/
theorem default_fill_counterexample :
    let v : Var := ⟨"x", .f4, ["n"], [], none, none, none, true, [some 1, none, some 3]⟩
    readCell v.dt (diskFill v) v.missing (writeFill9999 v) = some (-9999) ∧
    readCell v.dt (diskFill v) v.missing (writeFill v) = none := by
  constructor <;> decide +kernel

end Props.C07
