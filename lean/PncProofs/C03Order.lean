import PncProofs.C03
import Mathlib.Algebra.Order.Ring.Rat

/-!
# C03 — "the result does not depend on the order in which dimensions are named"

Two statements. `apply_kwperm`: one call with the same dimension → function pairs in any keyword order answers the same, for
every function (the axes of a variable are processed in the order of its dimension tuple). `reduce_commute`: for `sum`,
`min` and `max` reducing along one axis and then another equals reducing in the other order (a double fold of a
commutative operation), for any rank, any two axes, masked cells included.
-/
namespace Props.C03
open PFile Arr

/-- **the order in which the dimensions are named does not matter (lookup).** -/
theorem fnOf_perm (fns fns' : List (String × Fn)) (hp : fns.Perm fns') (hn : (fns.map (·.1)).Nodup) (k : String) :
    fnOf fns k = fnOf fns' k := by
  unfold fnOf
  cases h : fns.find? (·.1 == k) with
  | some p =>
    have := List.find?_of_mem_nodup (·.1) fns' ((hp.map _).nodup_iff.mp hn) p (hp.mem_iff.mp (List.mem_of_find?_eq_some h))
    have hk : p.1 = k := by simpa using List.find?_some h
    rw [hk] at this
    rw [this]
  | none => rw [List.find?_eq_none.mpr fun p hp' => List.find?_eq_none.mp h p (hp.mem_iff.mpr hp')]

/-- **C03 (the order of naming).** `applyAlongDimensions(**{d₁: f₁, …})` with the same dimension → function pairs given
in any order (distinct dimension names, as the keys of a dictionary are) answers the same: the same error, or the same
file. This holds for every function, commuting or not, because the axes of a variable are processed in the order of its
dimension tuple (last to first), never in the order of the keywords. -/
theorem apply_kwperm (f : File) (fns fns' : List (String × Fn)) (hp : fns.Perm fns') (hn : (fns.map (·.1)).Nodup) :
    applyFile f fns = applyFile f fns' := by
  -- the keywords enter only through the lookup `fnOf` and three tests over all of them
  have e : fnOf fns = fnOf fns' := funext (fnOf_perm fns fns' hp hn)
  unfold applyFile applyVar applyAxis
  rw [hp.any_eq, hp.any_eq, hp.any_eq, e]

/-! ### reducers as folds of a commutative operation with identity `none` (a masked cell) -/

def foldC (op : Cell → Cell → Cell) (l : List Cell) : Cell := l.foldr op none

/-- what makes the double fold independent of the order: associative, commutative, `none` neutral -/
structure CommOp (op : Cell → Cell → Cell) : Prop where
  assoc : ∀ a b c, op (op a b) c = op a (op b c)
  comm : ∀ a b, op a b = op b a
  none_left : ∀ a, op none a = a

theorem foldC_cons (op : Cell → Cell → Cell) (c : Cell) (l : List Cell) : foldC op (c :: l) = op c (foldC op l) := rfl

theorem foldC_map_op {β} (op : Cell → Cell → Cell) (h : CommOp op) (f g : β → Cell) : ∀ (l : List β),
    foldC op (l.map (fun s => op (f s) (g s))) = op (foldC op (l.map f)) (foldC op (l.map g)) := by
  intro l
  induction l with
  | nil => exact (h.none_left none).symm
  | cons s l ih =>
    simp only [List.map_cons, foldC_cons]
    -- (f s ∘ g s) ∘ (F ∘ G) = (f s ∘ F) ∘ (g s ∘ G)
    rw [ih, h.assoc, h.assoc]
    congr 1
    rw [← h.assoc, ← h.assoc, h.comm (g s)]

theorem foldC_map_none {β} (op : Cell → Cell → Cell) (h : CommOp op) : ∀ (l : List β),
    foldC op (l.map (fun _ => none)) = none := by
  intro l
  induction l with
  | nil => rfl
  | cons _ l ih => rw [List.map_cons, foldC_cons, ih, h.none_left]

/-- **the double fold does not depend on the order of the two folds** -/
theorem foldC_swap {β γ} (op : Cell → Cell → Cell) (h : CommOp op) (M : β → γ → Cell) (S : List γ) : ∀ (T : List β),
    foldC op (T.map (fun t => foldC op (S.map (M t)))) = foldC op (S.map (fun s => foldC op (T.map (fun t => M t s)))) := by
  intro T
  induction T with
  | nil => exact (foldC_map_none op h S).symm
  | cons t T ih =>
    simp only [List.map_cons, foldC_cons]
    rw [ih, foldC_map_op op h]

/-! ### sum, min and max are such folds (on non-empty lists)

All three are a binary operation `m` on the unmasked values, lifted to cells with a masked cell neutral (`liftC m`); for an
associative commutative `m` that is a `CommOp`, and its fold is the left fold of `m` over the unmasked values. -/

def addC : Cell → Cell → Cell
  | none, b => b
  | a, none => a
  | some x, some y => some (x + y)

def minC : Cell → Cell → Cell
  | none, b => b
  | a, none => a
  | some x, some y => some (if y < x then y else x)

def maxC : Cell → Cell → Cell
  | none, b => b
  | a, none => a
  | some x, some y => some (if y > x then y else x)

def liftC (m : ℚ → ℚ → ℚ) : Cell → Cell → Cell
  | none, b => b
  | a, none => a
  | some x, some y => some (m x y)

theorem addC_eq : addC = liftC (· + ·) := by
  funext a b
  cases a <;> cases b <;> rfl

theorem minfn_eq : (fun (x y : ℚ) => if y < x then y else x) = fun x y => min x y := by
  funext x y
  rcases lt_or_ge y x with h | h
  · rw [if_pos h, min_eq_right (le_of_lt h)]
  · rw [if_neg (not_lt.mpr h), min_eq_left h]

theorem minC_eq : minC = liftC (fun x y => min x y) := by
  rw [← minfn_eq]
  funext a b
  cases a <;> cases b <;> rfl

theorem maxfn_eq : (fun (x y : ℚ) => if y > x then y else x) = fun x y => max x y := by
  funext x y
  rcases lt_or_ge x y with h | h
  · rw [if_pos h, max_eq_right (le_of_lt h)]
  · rw [if_neg (not_lt.mpr h), max_eq_left h]

theorem maxC_eq : maxC = liftC (fun x y => max x y) := by
  rw [← maxfn_eq]
  funext a b
  cases a <;> cases b <;> rfl

theorem liftC_commOp (m : ℚ → ℚ → ℚ) [ha : Std.Associative m] [hc : Std.Commutative m] : CommOp (liftC m) := by
  refine ⟨?_, ?_, ?_⟩
  · intro a b c
    cases a <;> cases b <;> cases c <;> simp only [liftC, ha.assoc]
  · intro a b
    cases a <;> cases b <;> simp only [liftC, hc.comm]
  · intro a
    cases a <;> rfl

theorem unmasked_none (l : List Cell) : unmasked (none :: l) = unmasked l := rfl
theorem unmasked_some (x : ℚ) (l : List Cell) : unmasked (some x :: l) = x :: unmasked l := rfl

theorem foldC_liftC (m : ℚ → ℚ → ℚ) [Std.Associative m] : ∀ (l : List Cell),
    foldC (liftC m) l = match unmasked l with
      | [] => none
      | a :: r => some (r.foldl m a) := by
  intro l
  induction l with
  | nil => rfl
  | cons c l ih =>
    rw [foldC_cons, ih]
    cases c with
    | none =>
      rw [unmasked_none]
      cases unmasked l <;> rfl
    | some x =>
      rw [unmasked_some]
      cases unmasked l with
      | nil => rfl
      | cons a r => simp only [liftC, List.foldl_cons, List.foldl_assoc]

/-- `sum` along a fibre (masked cells excluded, an all-masked fibre masked) is the fold of `addC` -/
theorem sum_apply_eq (l : List Cell) (hl : l ≠ []) : Fn.sum.apply l = [foldC addC l] := by
  rw [addC_eq, foldC_liftC]
  unfold Fn.apply rsum
  cases l with
  | nil => exact absurd rfl hl
  | cons c l =>
    cases h : unmasked (c :: l) with
    | nil => simp
    | cons a r => simp

theorem min_apply_eq (l : List Cell) : Fn.min.apply l = [foldC minC l] := by
  rw [minC_eq, foldC_liftC, ← minfn_eq]
  rfl

theorem max_apply_eq (l : List Cell) : Fn.max.apply l = [foldC maxC l] := by
  rw [maxC_eq, foldC_liftC, ← maxfn_eq]
  rfl

/-- two arrays of one shape with the same cell at every valid index are equal -/
theorem ext_get {α} : ∀ (sh : List Nat) (a b : Arr α), hasShape sh a = true → hasShape sh b = true →
    (∀ idx, Valid idx sh → get a idx = get b idx) → a = b :=
  Arr.ext_get

theorem valid_length : ∀ (idx sh : List Nat), Valid idx sh → idx.length = sh.length := by
  intro idx sh
  induction sh generalizing idx with
  | nil =>
    intro h
    rw [valid_nil.mp h]
  | cons _ sh ih =>
    intro h
    obtain ⟨i, idx, rfl, _, h⟩ := valid_cons.mp h
    rw [List.length_cons, List.length_cons, ih idx h]

/-- the cell at an index (a masked cell outside the array) -/
def cellAt (a : Arr Cell) (idx : List Nat) : Cell := (get a idx).getD none

/-- **a reduction along one axis, cell by cell**: for a function that answers the fold of `op` on non-empty fibres, the
cell of the result at a valid index is the fold over the cells of the fibre through that index -/
theorem reduce_get (g : List Cell → List Cell) (op : Cell → Cell → Cell) (hu : Uniform g (fun _ => 1))
    (hg : ∀ l, l ≠ [] → g l = [foldC op l]) (sh : List Nat) (k : Nat) (a : Arr Cell) (idx : List Nat)
    (hs : hasShape sh a = true) (hp : AllPos sh) (hk : k < sh.length) (hv : Valid idx (sh.set k 1)) :
    get (mapFibers g sh k a) idx = some (foldC op ((List.range (sh.getD k 0)).map (fun t => cellAt a (idx.set k t)))) := by
  rw [mapFibers_get g (fun _ => 1) hu sh k a idx hs hp hk hv]
  have hk0 : idx.getD k 0 = 0 := by
    have := valid_getD_lt idx (sh.set k 1) k hv (by rwa [List.length_set])
    rw [List.getD_set_self sh k 1 0 hk] at this
    exact Nat.lt_one_iff.mp this
  have hn : 0 < sh.getD k 0 := hp _ (List.getD_mem 0 hk)
  -- every index of the fibre is valid, so the fibre drops nothing
  have hfib : fiber a k (sh.getD k 0) idx = (List.range (sh.getD k 0)).map (fun t => cellAt a (idx.set k t)) := by
    refine List.filterMap_eq_map_getD none fun t ht => ?_
    obtain ⟨c, hc⟩ := get_some_of_valid sh a _ hs (valid_set idx sh k 1 t hv hk (List.mem_range.mp ht))
    rw [hc]
    rfl
  rw [hfib, hk0, hg _ (List.ne_nil_of_length_pos (by rwa [List.length_map, List.length_range]))]
  rfl

theorem reduce_reduce_spec (g : List Cell → List Cell) (op : Cell → Cell → Cell) (hu : Uniform g (fun _ => 1))
    (hg : ∀ l, l ≠ [] → g l = [foldC op l]) (sh : List Nat) (i j : Nat) (a : Arr Cell)
    (hs : hasShape sh a = true) (hp : AllPos sh) (hi : i < sh.length) (hj : j < sh.length) (hij : i ≠ j) :
    hasShape ((sh.set j 1).set i 1) (mapFibers g (sh.set j 1) i (mapFibers g sh j a)) = true ∧
    ∀ idx, Valid idx ((sh.set j 1).set i 1) →
      get (mapFibers g (sh.set j 1) i (mapFibers g sh j a)) idx =
        some (foldC op ((List.range (sh.getD i 0)).map (fun t =>
          foldC op ((List.range (sh.getD j 0)).map (fun s => cellAt a ((idx.set i t).set j s)))))) := by
  have hsb : hasShape (sh.set j 1) (mapFibers g sh j a) = true := mapFibers_shape g (fun _ => 1) hu sh j a hs hp hj
  have hpb : AllPos (sh.set j 1) := allPos_set sh j 1 hp Nat.one_pos
  have hib : i < (sh.set j 1).length := by rwa [List.length_set]
  refine ⟨mapFibers_shape g (fun _ => 1) hu (sh.set j 1) i _ hsb hpb hib, fun idx hv => ?_⟩
  rw [reduce_get g op hu hg (sh.set j 1) i _ idx hsb hpb hib hv, List.getD_set_ne sh 1 0 hij]
  refine congrArg (fun l => some (foldC op l)) (List.map_congr_left fun t ht => ?_)
  have hvt : Valid (idx.set i t) (sh.set j 1) :=
    valid_set idx (sh.set j 1) i 1 t hv hib (by rw [List.getD_set_ne sh 1 0 hij]; exact List.mem_range.mp ht)
  rw [cellAt, reduce_get g op hu hg sh j a (idx.set i t) hs hp hj hvt]
  rfl

/-- the same for any function that answers, on non-empty fibres, the fold of an associative commutative operation with
a masked cell neutral: both orders have one shape and, cell by cell, the double fold in either order -/
theorem reduce_commute_of (g : List Cell → List Cell) (op : Cell → Cell → Cell) (hop : CommOp op) (hu : Uniform g (fun _ => 1))
    (hg : ∀ l, l ≠ [] → g l = [foldC op l]) (sh : List Nat) (i j : Nat) (a : Arr Cell)
    (hs : hasShape sh a = true) (hp : AllPos sh) (hi : i < sh.length) (hj : j < sh.length) (hij : i ≠ j) :
    mapFibers g (sh.set j 1) i (mapFibers g sh j a) = mapFibers g (sh.set i 1) j (mapFibers g sh i a) := by
  obtain ⟨hsL, hgL⟩ := reduce_reduce_spec g op hu hg sh i j a hs hp hi hj hij
  obtain ⟨hsR, hgR⟩ := reduce_reduce_spec g op hu hg sh j i a hs hp hj hi (fun e => hij e.symm)
  rw [List.set_comm _ _ hij] at hsR hgR
  refine ext_get _ _ _ hsL hsR fun idx hv => ?_
  rw [hgL idx hv, hgR idx hv, foldC_swap op hop (fun t s => cellAt a ((idx.set i t).set j s))]
  simp only [List.set_comm _ _ hij]

/-- **C03 (commuting reducers).** For `sum`, `min` and `max` — each excluding masked cells, an all-masked fibre giving a
masked cell —, any array of any rank without an empty axis and any two different axes `i`, `j`: reducing along `j` and then
along `i` gives the same array as reducing along `i` and then along `j`. (With `apply_kwperm`: whichever way the two
dimensions are named, in one call or in two, the result is one and the same.) -/
theorem reduce_commute (fn : Fn) (hfn : fn = .sum ∨ fn = .min ∨ fn = .max) (sh : List Nat) (i j : Nat) (a : Arr Cell)
    (hs : hasShape sh a = true) (hp : AllPos sh) (hi : i < sh.length) (hj : j < sh.length) (hij : i ≠ j) :
    mapFibers fn.apply (sh.set j 1) i (mapFibers fn.apply sh j a) =
      mapFibers fn.apply (sh.set i 1) j (mapFibers fn.apply sh i a) := by
  rcases hfn with rfl | rfl | rfl
  · exact reduce_commute_of _ addC (addC_eq ▸ liftC_commOp _) (fn_uniform .sum) sum_apply_eq sh i j a hs hp hi hj hij
  · exact reduce_commute_of _ minC (minC_eq ▸ liftC_commOp _) (fn_uniform .min) (fun l _ => min_apply_eq l) sh i j a hs hp hi hj hij
  · exact reduce_commute_of _ maxC (maxC_eq ▸ liftC_commOp _) (fn_uniform .max) (fun l _ => max_apply_eq l) sh i j a hs hp hi hj hij

/-- non-vacuity, and the reason for "commuting": on a 2 × 2 array with one masked cell the two orders of `sum` agree
(the theorem) and the two orders of `mean` differ -/
example :
    let a : Arr Cell := .node [.node [.leaf (some 1), .leaf none], .node [.leaf (some 3), .leaf (some 5)]]
    hasShape [2, 2] a = true ∧
    flatten (mapFibers Fn.sum.apply [2, 1] 0 (mapFibers Fn.sum.apply [2, 2] 1 a)) = [some 9] ∧
    flatten (mapFibers Fn.sum.apply [1, 2] 1 (mapFibers Fn.sum.apply [2, 2] 0 a)) = [some 9] ∧
    flatten (mapFibers Fn.mean.apply [2, 1] 0 (mapFibers Fn.mean.apply [2, 2] 1 a)) ≠
      flatten (mapFibers Fn.mean.apply [1, 2] 1 (mapFibers Fn.mean.apply [2, 2] 0 a)) := by
  decide +kernel

end Props.C03
