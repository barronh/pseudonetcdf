import PncModel.Registry

/-!
# C15 — format auto-detection depends only on the file and the registered readers

`Registry.getreader` is the model of the code as it is *now*: the flag
`Generated.getreaderCopies` is re-extracted from `_getreader.py` on every run.  The theorems below
are about that definition, so they stop building if the source goes back to aliasing the registry.
-/
namespace Props.C15
open Registry

/-- **C15 frame.** An auto-detecting open leaves the registry unchanged. -/
theorem frame (reg : Reg) (ext : String) (acc : Nat → Ans) : (getreader reg ext acc).1 = reg := rfl

theorem openStep_eq (reg : Reg) (o : Open) : openStep reg o = (reg, (openStep reg o).2) := by
  refine Prod.ext ?_ rfl
  unfold openStep
  cases o.fmt with
  | none => exact frame reg o.ext o.acc
  | some n => rfl

theorem runHist_eq (reg : Reg) : ∀ hist : List Open, runHist reg hist = (reg, hist.map fun o => (openStep reg o).2)
  | [] => rfl
  | o :: rest => by
    rw [runHist, openStep_eq]
    simp only [runHist_eq reg rest, List.map_cons]

/-- **C15 history.** After any history of opens (auto-detected or with a named format, in any
order, any number of times) the registry is the initial one … -/
theorem history_registry (reg : Reg) : ∀ hist : List Open, (runHist reg hist).1 = reg :=
  fun hist => congrArg Prod.fst (runHist_eq reg hist)

/-- … hence the reader selected for a probe file is the same after any history, for every probe. -/
theorem history_independent (reg : Reg) (hist : List Open) (probe : Open) :
    (openStep (runHist reg hist).1 probe).2 = (openStep reg probe).2 := by
  rw [history_registry]

/-- **C15 with registrations.** After any history of opens *and* reader registrations the registry is the initial one
with the registrations applied in order — no open leaves a trace, whatever was opened and however often … -/
theorem events_registry : ∀ (evs : List Event) (reg : Reg), (runEvents reg evs).1 = registrations reg evs
  | [], reg => rfl
  | .opn o :: rest, reg => by
    rw [runEvents, openStep_eq]
    exact events_registry rest reg
  | .reg n r :: rest, reg => events_registry rest (register reg n r)

/-- … hence the reader selected for a probe depends only on the probe file and on which readers were registered (and
in which order), not on the files opened before or between the registrations: a reader registered after the
first auto-detecting open is found exactly as if it had been registered before it. -/
theorem events_independent (reg : Reg) (evs : List Event) (probe : Open) :
    (openStep (runEvents reg evs).1 probe).2 = (openStep (registrations reg evs) probe).2 := by
  rw [events_registry]

/-- a newly registered reader is searched first: it is selected for every file it accepts -/
theorem registered_first (reg : Reg) (n : String) (r : Nat) (acc : Nat → Ans)
    (hnew : (reg.map (·.1)).contains n = false) (hno : rdictGet (register reg n r) "" = none) (hacc : acc r = .yes) :
    (getreader (register reg n r) "" acc).2 = .ok r := by
  have hreg : register reg n r = (n, r) :: reg := by
    unfold register
    rw [hnew]
    rfl
  rw [hreg] at hno ⊢
  simp only [getreader, getreaderWith, searchList, hno, choose, hacc]

/-- **C15 idempotence**: opening the same file twice selects the same reader twice. -/
theorem repeat_same (reg : Reg) (o : Open) :
    (runHist reg [o, o]).2 = [(openStep reg o).2, (openStep reg o).2] :=
  congrArg Prod.snd (runHist_eq reg [o, o])

theorem choose_spec (acc : Nat → Ans) : ∀ (l : Reg) (r : Nat), choose acc l = .ok r →
    ∃ pre post n, l = pre ++ (n, r) :: post ∧ (∀ p ∈ pre, acc p.2 = .no) ∧ acc r = .yes
  | [], r, h => nomatch h
  | (n0, r0) :: rest, r, h => by
    rw [choose] at h
    split at h
    · next hy =>
      cases h
      exact ⟨[], rest, n0, rfl, fun _ hp => absurd hp List.not_mem_nil, hy⟩
    · cases h
    · next hn =>
      obtain ⟨pre, post, n, hl, hp, hr⟩ := choose_spec acc rest r h
      exact ⟨(n0, r0) :: pre, post, n, congrArg _ hl, List.forall_mem_cons.mpr ⟨hn, hp⟩, hr⟩

/-- the selected reader accepts the file -/
theorem choose_accepts (acc : Nat → Ans) : ∀ (l : Reg) (r : Nat), choose acc l = .ok r → acc r = .yes :=
  fun l r h =>
    let ⟨_, _, _, _, _, hr⟩ := choose_spec acc l r h
    hr

/-- … and no earlier entry of the searched list accepted or raised -/
theorem choose_first (acc : Nat → Ans) : ∀ (l : Reg) (r : Nat), choose acc l = .ok r →
    ∃ pre post n, l = pre ++ (n, r) :: post ∧ ∀ p ∈ pre, acc p.2 = .no :=
  fun l r h =>
    let ⟨pre, post, n, hl, hp, _⟩ := choose_spec acc l r h
    ⟨pre, post, n, hl, hp⟩

/-- **C15 named = auto.** If names are unique in the registry and auto-detection selected the entry
registered as `n`, then opening with `format=n` uses the same reader. -/
theorem named_same (reg : Reg) (n : String) (r : Nat) (hmem : (n, r) ∈ reg)
    (huniq : ∀ p ∈ reg, ∀ q ∈ reg, p.1 = q.1 → p = q) : named reg n = some r := by
  unfold named rdictGet
  obtain ⟨p, hp⟩ : ∃ p, reg.reverse.find? (·.1 == n) = some p :=
    Option.isSome_iff_exists.mp (List.find?_isSome.mpr ⟨(n, r), List.mem_reverse.mpr hmem, beq_self_eq_true n⟩)
  have hpn : p.1 = n := by simpa using List.find?_some hp
  rw [hp, huniq p (List.mem_reverse.mp (List.mem_of_find?_eq_some hp)) (n, r) hmem hpn]
  rfl

/-- The aliasing variant (the code before the `fix:` commit) is history dependent: a file that two
readers accept is detected as reader 1 in a fresh process and as reader 2 after one `*.nc` open.
Replayed on the real code by the check (it must *not* reproduce any more). -/
theorem aliasing_counterexample :
    let reg : Reg := [("gcnc", 1), ("nc", 2)]
    let both : Nat → Ans := mkAcc [1, 2] []
    let nconly : Nat → Ans := mkAcc [2] []
    (getreaderWith false reg "" both).2.toOption = some 1 ∧
    (getreaderWith false (getreaderWith false reg "nc" nconly).1 "" both).2.toOption = some 2 := by
  decide +kernel

/-- non-vacuity of `named_same`: a registry with unique names -/
example : ∀ p ∈ ([("gcnc", 1), ("nc", 2), ("netcdf", 2)] : Reg), ∀ q ∈ ([("gcnc", 1), ("nc", 2), ("netcdf", 2)] : Reg),
    p.1 = q.1 → p = q := by decide +kernel

end Props.C15
