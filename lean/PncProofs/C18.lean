import PncModel.Generated.BpchHeaders
import PncModel.Bpch
import PncProofs.WordsLemmas

/-!
# C18 — GEOS-Chem binary punch files

`Bpch.encode` is the byte layout (the reference encoder of the harness and the library writer are compared
with it on every run), `Bpch.refDecode` the independent decoder. For files with any number of time steps, tracers per
step and layers per tracer: the records tile the file, and the decoder recovers what was encoded. The format does not
mark time steps; the decoder starts a new one when the key of the first block comes again. That recovers the steps when
all steps have the same keys and no step repeats the key of its first block (`WF`); `repeat_breaks_grouping` is a file
with a repeated key on which it does not. The scale factor and unit of a tracer come from the table line of
tracer + category offset, else scale 1 and the unit stored in the file.
-/
namespace Props.C18
open Bpch Words

theorem toBlocks_flatten (bs : List Block) : toBlocks ((bs.map blockRecords).flatten) = some bs := by
  induction bs with
  | nil => rfl
  | cons b bs ih =>
    show toBlocks ([b.hdr1, b.hdr2, b.data] ++ (bs.map blockRecords).flatten) = _
    simp only [List.cons_append, List.nil_append, toBlocks, ih]
    rfl

/-- **the records tile the file**: walking the leading/trailing markers consumes the encoding exactly and
yields the header records and three records per data block, in order -/
theorem tiles (f : File) : parseRecords (encode f).length (encode f) = some (records f) :=
  parse_encode (records f) _ (Nat.le_refl _)

/-- a step sequence the first-repetition rule can recover -/
structure WF (steps : List (List Block)) : Prop where
  nonempty : ∀ s ∈ steps, s ≠ []
  same : ∀ s ∈ steps, ∀ s' ∈ steps, s.map Block.key = s'.map Block.key
  norepeat : ∀ s ∈ steps, ∀ b ∈ s.tail, ∀ a ∈ s.head?, b.key ≠ a.key

theorem chunks_flatten (n : Nat) (hn : 0 < n) : ∀ (steps : List (List Block)) (fuel : Nat),
    (∀ s ∈ steps, s.length = n) → steps.flatten.length ≤ fuel → chunks n steps.flatten fuel = steps
  | [], 0, _, _ => rfl
  | [], _ + 1, _, _ => if_pos (Or.inr hn)
  | s :: rest, 0, hlen, hfuel => by
    rw [List.flatten_cons, List.length_append, hlen s List.mem_cons_self] at hfuel
    exact absurd (Nat.le_trans (Nat.le_add_right n _) hfuel) (Nat.not_le.mpr hn)
  | s :: rest, k + 1, hlen, hfuel => by
    have hs : s.length = n := hlen s List.mem_cons_self
    rw [List.flatten_cons, List.length_append, hs] at hfuel
    have hk : rest.flatten.length ≤ k := Nat.le_of_lt_succ (Nat.lt_of_lt_of_le (Nat.lt_add_of_pos_left hn) hfuel)
    have hfull : ¬(n = 0 ∨ (s ++ rest.flatten).length < n) := by
      rw [List.length_append, hs]
      exact fun h => h.elim (Nat.ne_of_gt hn) (Nat.not_lt.mpr (Nat.le_add_right n _))
    rw [chunks, List.flatten_cons, if_neg hfull, List.take_left' hs, List.drop_left' hs,
      chunks_flatten n hn rest k (fun x hx => hlen x (List.mem_cons_of_mem _ hx)) hk]

theorem firstStep_flatten (s : List Block) (rest : List (List Block)) (h : WF (s :: rest)) :
    firstStep ((s :: rest).flatten) = s := by
  obtain ⟨b, tl, rfl⟩ := List.exists_cons_of_ne_nil (h.nonempty s (by simp))
  have htl : ∀ x ∈ tl, (x.key != b.key) = true := fun x hx => by
    simpa using h.norepeat (b :: tl) (by simp) x (by simpa using hx) b (by simp)
  -- after `tl` the blocks stop (last step) or the next step starts with the key of `b`
  have hstop : rest.flatten.takeWhile (fun x => x.key != b.key) = [] := by
    cases rest with
    | nil => rfl
    | cons s' rest' =>
      obtain ⟨b', tl', rfl⟩ := List.exists_cons_of_ne_nil (h.nonempty s' (by simp))
      have hk : b'.key = b.key := (List.cons.inj (h.same (b' :: tl') (by simp) (b :: tl) (by simp))).1
      exact List.takeWhile_cons_of_neg (by simp [hk])
  simp only [List.flatten_cons, List.cons_append, firstStep, List.takeWhile_append_of_pos htl, hstop,
    List.append_nil]

/-- **time steps are recovered** from the unmarked sequence of blocks by the first-repetition rule -/
theorem groupSteps_flatten (steps : List (List Block)) (h : WF steps) : groupSteps steps.flatten = steps := by
  cases steps with
  | nil => rfl
  | cons s rest =>
    rw [groupSteps, firstStep_flatten s rest h]
    refine chunks_flatten s.length (List.length_pos_iff.mpr (h.nonempty s List.mem_cons_self)) _ _
      (fun x hx => ?_) (Nat.le_refl _)
    simpa using congrArg List.length (h.same x hx s List.mem_cons_self)

/-- **the independent decoder inverts the encoder**: file type, title, and every block of every time step
(names, tracer ids, units, tau0/tau1, dimensions, offsets and data words) are recovered exactly -/
theorem refDecode_encode (f : File) (h : WF f.steps) : refDecode (encode f) = some f := by
  unfold refDecode
  rw [tiles f]
  simp only [records, List.cons_append, List.nil_append, Option.bind_eq_bind, Option.bind_some]
  rw [toBlocks_flatten]
  simp only [Option.bind_some, Option.pure_def, groupSteps_flatten f.steps h]

/-- a block of the given key and data -/
def mkBlock (cat tid : Word) (d : List Word) : Block :=
  ⟨List.replicate 9 0, List.replicate 10 cat ++ [tid] ++ List.replicate 31 0, d⟩

/-- the hypotheses are met: two steps of two tracers with different layer counts -/
example : WF [[mkBlock 1 1 [7, 8], mkBlock 1 2 [9]], [mkBlock 1 1 [10, 11], mkBlock 1 2 [12]]] := by
  exact ⟨by decide +kernel, by decide +kernel, by decide +kernel⟩

/-- **the rule needs the hypothesis**: if a tracer occurs twice within a time step the first-repetition rule
cuts the step short and the steps read differ from the steps written -/
theorem repeat_breaks_grouping :
    groupSteps ([[mkBlock 1 1 [7], mkBlock 1 2 [8], mkBlock 1 1 [9]]].flatten) ≠
      [[mkBlock 1 1 [7], mkBlock 1 2 [8], mkBlock 1 1 [9]]] := by decide +kernel

/-! ### scale factor and unit -/

/-- a tracer listed under `tracer + offset(category)` gets that line's scale factor and unit (the first such
line, as the tables are read top to bottom) -/
theorem resolve_listed (ts : List TInfo) (ds : List DInfo) (cat : String) (tid : Nat) (d : DInfo) (t : TInfo)
    (hd : ds.find? (fun d => d.category == cat) = some d)
    (ht : ts.find? (fun t => t.id == tid + d.offset) = some t) :
    resolve ts ds cat tid = { name := t.name, scale := t.scale, unit := some t.unit } := by
  simp only [resolve, offsetOf, hd, ht]

/-- a category missing from diaginfo has offset 0 -/
theorem resolve_nocat (ts : List TInfo) (ds : List DInfo) (cat : String) (tid : Nat) (t : TInfo)
    (hd : ds.find? (fun d => d.category == cat) = none)
    (ht : ts.find? (fun t => t.id == tid) = some t) :
    resolve ts ds cat tid = { name := t.name, scale := t.scale, unit := some t.unit } := by
  simp only [resolve, offsetOf, hd, Nat.add_zero, ht]

/-- a tracer without a table line is never scaled and keeps the unit stored in the file -/
theorem resolve_unlisted (ts : List TInfo) (ds : List DInfo) (cat : String) (tid : Nat)
    (ht : ts.find? (fun t => t.id == tid + offsetOf ds cat) = none) :
    (resolve ts ds cat tid).scale = 1 ∧ (resolve ts ds cat tid).unit = none := by
  unfold resolve
  simp only [ht]
  cases ts.find? (fun t => t.id == tid) <;> exact ⟨rfl, rfl⟩

/-- **tie to the source** (regenerated from `_datablock_header_type` of geoschemfiles/_bpch.py on every run): the word
offsets at which the model reads category, tracer number, unit, tau0, tau1, dimensions, start and skip in the second
header record of a data block are those of the source's record type -/
theorem header_layout_matches_source :
    Generated.bpchHdr2 = some [0, 10, 11, 21, 23, 25, 35, 38, 41, 42] ∧ Generated.bpchHdr1 = some [0, 5, 7, 8, 9] ∧
    Generated.bpchFileHeaderBytes = some 136 ∧
    ∀ b : Block, b.category = b.hdr2.take 10 ∧ b.tracerid = b.hdr2.getD 10 0 ∧ b.unit = (b.hdr2.drop 11).take 10 ∧
      b.tau0 = (b.hdr2.drop 21).take 2 ∧ b.tau1 = (b.hdr2.drop 23).take 2 ∧ b.dims = (b.hdr2.drop 35).take 3 ∧
      b.start = (b.hdr2.drop 38).take 3 ∧ b.skip = b.hdr2.getD 41 0 := by
  refine ⟨by decide, by decide, by decide, fun b => ⟨rfl, rfl, rfl, rfl, rfl, rfl, rfl, rfl⟩⟩

end Props.C18
