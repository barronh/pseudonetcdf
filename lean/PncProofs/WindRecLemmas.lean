import PncModel.Camx.WindRecRead
import PncProofs.WindLemmas
import PncProofs.SlabReadLemmas

/-! The record reader of wind files (`PncModel/Camx/WindRecRead.lean`), which walks the file by its record markers: its
loops on an encoded file, and what it presents for one or more steps on a regular time axis. -/
namespace WindRec
open Words

/-! ### walking a framed-record file by its markers (`RecordFile.next`)

A record `r` at word `pos` is `ws.drop pos = frame r ++ rest` as in `WordsLemmas`; the walk ends where `rest = []`. -/

section walk
variable {ws : List Word}

theorem nextRec_at {pos : Nat} {r rest : List Word} (h : ws.drop pos = frame r ++ rest) :
    nextRec ws pos = if rest = [] then none else some (pos + (r.length + 2)) := by
  have hl := length_of_drop h
  unfold nextRec
  simp only [getD_marker h, Nat.mul_div_cancel_left _ (Nat.succ_pos 3), Nat.add_assoc]
  cases rest with
  | nil => rw [if_neg (by rw [hl]; exact Nat.lt_irrefl _), if_pos rfl]
  | cons a as => rw [if_pos (by rw [hl]; exact Nat.lt_add_of_pos_right (Nat.succ_pos _)), if_neg (List.cons_ne_nil _ _)]

/-- the two bounds checks of a `fetch` for the record at `pos` -/
theorem fits_of_drop {pos : Nat} {r rest : List Word} (h : ws.drop pos = frame r ++ rest) :
    ¬ ((pos : Int) < 0 ∨ (pos : Int) ≥ ws.length) ∧ ¬ ws.length < pos + 1 + r.length := by
  have := length_of_drop h
  omega

theorem advance_succ (ws : List Word) (n pos : Nat) : advance ws (n + 1) pos = (nextRec ws pos).bind (advance ws n) := by
  rw [advance]
  cases nextRec ws pos <;> rfl

theorem advance_over (rest : List Word) (rs : List (List Word)) : ∀ (pos : Nat), rs ≠ [] →
    ws.drop pos = encodeRecs rs ++ rest →
    advance ws rs.length pos = if rest = [] then none else some (pos + (encodeRecs rs).length) := by
  induction rs with
  | nil => exact fun _ hne _ => absurd rfl hne
  | cons r rs ih =>
    intro pos _ h
    rw [encodeRecs_cons, List.append_assoc] at h
    rw [List.length_cons, advance_succ, nextRec_at h, encodeRecs_cons_length]
    cases rs with
    | nil =>
      rw [encodeRecs_nil, List.nil_append]
      by_cases hr : rest = []
      · rw [if_pos hr, if_pos hr]
        rfl
      · rw [if_neg hr, if_neg hr]
        rfl
    | cons r2 rs =>
      rw [encodeRecs_cons r2, List.append_assoc, if_neg (frame_append_ne_nil _ _), ← Nat.add_assoc pos (r.length + 2)]
      exact ih (pos + (r.length + 2)) (List.cons_ne_nil _ _) (drop_next h rfl)

/-- `ds`: records none of which has the size of a header, followed by the end of the file or by a record that has -/
theorem findHeader_over (hb : Nat) (rest : List Word) (hrest : rest ≠ [] → rest.headD 0 = hb)
    (ds : List (List Word)) : ∀ (pos n fuel : Nat), encodeRecs ds ++ rest ≠ [] → ws.drop pos = encodeRecs ds ++ rest →
      (∀ d ∈ ds, 4 * d.length ≠ hb) → ds.length + 1 ≤ fuel →
      findHeader ws hb fuel pos n =
        some (if rest = [] then .inl (n + ds.length - 1) else .inr (n + ds.length, pos + (encodeRecs ds).length)) := by
  induction ds with
  | nil =>
    intro pos n fuel hr h _ hf
    obtain ⟨fuel, rfl⟩ : ∃ k, fuel = k + 1 := Nat.exists_eq_add_of_le' hf
    rw [encodeRecs_nil, List.nil_append] at h hr
    have hm : ws.getD pos 0 = hb := by
      rw [List.getD_eq_getElem?_getD, ← List.head?_drop, ← List.headD_eq_head?_getD, h, hrest hr]
    rw [findHeader, if_pos hm, if_neg hr]
    rfl
  | cons d ds ih =>
    intro pos n fuel _ h hall hf
    obtain ⟨fuel, rfl⟩ : ∃ k, fuel = k + 1 := Nat.exists_eq_add_of_le' (Nat.le_trans (Nat.le_add_left 1 _) hf)
    rw [encodeRecs_cons, List.append_assoc] at h
    rw [findHeader, getD_marker h, if_neg (hall d List.mem_cons_self), nextRec_at h]
    by_cases hnil : encodeRecs ds ++ rest = []
    · obtain ⟨hds, hr⟩ := List.append_eq_nil_iff.mp hnil
      cases encodeRecs_eq_nil hds
      rw [if_pos hnil, if_pos hr]
      rfl
    · have ih := ih (pos + (d.length + 2)) (n + 1) fuel hnil (drop_next h rfl)
        (fun y hy => hall y (List.mem_cons_of_mem _ hy)) (Nat.le_of_succ_le_succ hf)
      rw [if_neg hnil]
      show findHeader ws hb fuel (pos + (d.length + 2)) (n + 1) = _
      rw [ih, List.length_cons, encodeRecs_cons_length, Nat.add_assoc n, Nat.add_comm 1, Nat.add_assoc pos]

end walk

/-! ### where the records of an encoded wind file are -/
open Wind
open SlabRead (DT timediff timeadd trange iter Axis)
open UamivRead (sint)

theorem hdr_bytes {h : Nat} : h = 2 ∨ h = 3 → 4 * h = 8 ∨ 4 * h = 12
  | .inl e => .inl (congrArg (4 * ·) e)
  | .inr e => .inr (congrArg (4 * ·) e)

theorem stepLen_ge (cells nz h : Nat) : 2 * nz + 2 ≤ stepLen cells nz h := by
  have : 2 * nz ≤ (cells + 2) * (2 * nz) := Nat.le_mul_of_pos_left _ (Nat.succ_pos _)
  unfold stepLen
  omega

theorem encode_eq_recs (steps : List WStep) : encode steps = encodeRecs (records steps) := rfl

theorem encode_cons_recs (s : WStep) (rest : List WStep) :
    encode (s :: rest) = frame (header s) ++ (encodeRecs (s.slabs ++ [[0]]) ++ encode rest) := by
  rw [encode_cons, stepWords]
  simp only [stepRecords, encodeRecs_cons, List.append_assoc]

theorem encode_drop_eq_nil (steps : List WStep) (t : Nat) : encode (steps.drop t) = [] ↔ steps.length ≤ t := by
  constructor
  · intro he
    refine Nat.le_of_not_lt fun ht => ?_
    rw [List.drop_eq_getElem_cons ht, encode_cons_recs] at he
    exact frame_append_ne_nil _ _ he
  · intro ht
    rw [List.drop_eq_nil_of_le ht]
    rfl

/-- (date, time) of a step as the reader unpacks its header -/
def dtOf (s : WStep) : DT := (sint s.date, truncF32 s.time)

theorem header_getD (s : WStep) : (header s).getD 0 0 = s.time ∧ (header s).getD 1 0 = s.date ∧ 2 ≤ (header s).length := by
  unfold header
  cases s.stag
  · exact ⟨rfl, rfl, Nat.le_refl 2⟩
  · exact ⟨rfl, rfl, Nat.le_succ 2⟩

def noStep : WStep := ⟨0, 0, none, []⟩

/-- what the reader must present: the steps' times and, per step and layer, the U and the V slab -/
def viewOf (nz : Nat) (steps : List WStep) (start : DT) (step : Int) : RView :=
  { nt := steps.length, nz := nz, times := (List.range steps.length).map (fun i => iter start step i),
    u := (List.range steps.length).map (fun i => (List.range nz).map (fun k => ((steps.getD i noStep).slabs).getD (2 * k) [])),
    v := (List.range steps.length).map (fun i => (List.range nz).map (fun k => ((steps.getD i noStep).slabs).getD (2 * k + 1) [])) }

section layout
variable {cells nz h : Nat} {steps : List WStep}
  (hall : ∀ s ∈ steps, StepOK cells nz h s)
include hall

theorem hdr_two_or_three (hT0 : 0 < steps.length) : h = 2 ∨ h = 3 :=
  (hall steps[0] (List.getElem_mem hT0)).2.2 ▸ header_length steps[0]

theorem at_header (t : Nat) (ht : t < steps.length) :
    (encode steps).drop (t * stepLen cells nz h) =
      frame (header steps[t]) ++ (encodeRecs (steps[t].slabs ++ [[0]]) ++ encode (steps.drop (t + 1))) := by
  rw [encode_eq, List.drop_flatten_uniform (blocks_uniform hall),
    ← List.map_drop, ← encode_eq, List.drop_eq_getElem_cons ht, encode_cons_recs]

theorem after_header (t : Nat) (ht : t < steps.length) :
    (encode steps).drop (t * stepLen cells nz h + (h + 2)) =
      encodeRecs (steps[t].slabs ++ [[0]]) ++ encode (steps.drop (t + 1)) :=
  drop_next (at_header hall t ht) (hall steps[t] (List.getElem_mem ht)).2.2

theorem data_run_length (t : Nat) (ht : t < steps.length) :
    (steps[t].slabs ++ [[0]]).length = 2 * nz + 1 ∧
    t * stepLen cells nz h + (h + 2) + (encodeRecs (steps[t].slabs ++ [[0]])).length = (t + 1) * stepLen cells nz h := by
  obtain ⟨hs, hc, -⟩ := hall steps[t] (List.getElem_mem ht)
  constructor
  · rw [List.length_append, hs]
    rfl
  · rw [encodeRecs_append, List.length_append, encodeRecs_length_uniform hc, hs, Nat.add_mul t 1, Nat.one_mul, stepLen,
      Nat.mul_comm (2 * nz)]
    show _ + (_ + 3) = _
    simp only [Nat.add_assoc]

theorem at_slab (t j : Nat) (ht : t < steps.length) (hj : j < 2 * nz) :
    ((steps[t].slabs).getD j []).length = cells ∧
    ∃ rest, (encode steps).drop (t * stepLen cells nz h + (h + 2) + j * (cells + 2)) = frame ((steps[t].slabs).getD j []) ++ rest := by
  obtain ⟨hs, hc, -⟩ := hall steps[t] (List.getElem_mem ht)
  have hjl : j < steps[t].slabs.length := by rw [hs]; exact hj
  refine ⟨?_, encodeRecs (steps[t].slabs.drop (j + 1)) ++ (frame [0] ++ encode (steps.drop (t + 1))), ?_⟩
  · rw [List.getD_of_lt _ _ hjl]
    exact hc _ (List.getElem_mem hjl)
  rw [← List.drop_drop, after_header hall t ht, encodeRecs_append, List.append_assoc,
    List.drop_append_of_le_length (by
      rw [encodeRecs_length_uniform hc]
      exact Nat.mul_le_mul_right _ (Nat.le_of_lt hjl)),
    drop_encodeRecs_uniform hc j, List.drop_eq_getElem_cons hjl, encodeRecs_cons, List.append_assoc,
    List.getD_of_lt _ _ hjl]
  rfl

/-- what `read` and `findEnd` read at the header of step `t` -/
theorem reads_at_header (hnz : 1 ≤ nz) (t : Nat) (ht : t < steps.length) :
    (encode steps).getD (t * stepLen cells nz h) 0 = 4 * h ∧
    ¬ (encode steps).length < t * stepLen cells nz h + 1 + h ∧
    (sint ((encode steps).getD (t * stepLen cells nz h + 2) 0), truncF32 ((encode steps).getD (t * stepLen cells nz h + 1) 0)) =
      dtOf steps[t] ∧
    nextRec (encode steps) (t * stepLen cells nz h) = some (t * stepLen cells nz h + (h + 2)) ∧
    (encode steps).getD (t * stepLen cells nz h + (h + 2)) 0 = 4 * cells := by
  have hat := at_header hall t ht
  obtain ⟨hs0, hc0, hh0⟩ := hall steps[t] (List.getElem_mem ht)
  obtain ⟨g1, g2, hh2⟩ := header_getD steps[t]
  obtain ⟨c0, cs, hsl⟩ := List.exists_cons_of_length_pos
    (show 0 < steps[t].slabs.length from hs0 ▸ Nat.mul_pos Nat.two_pos hnz)
  have hD := after_header hall t ht
  rw [hsl, List.cons_append, encodeRecs_cons, List.append_assoc] at hD
  have hnext := nextRec_at hat
  rw [hsl, List.cons_append, encodeRecs_cons, List.append_assoc, if_neg (frame_append_ne_nil _ _), hh0] at hnext
  have hroom := (fits_of_drop hat).2
  rw [hh0] at hroom
  refine ⟨?_, hroom, ?_, hnext, ?_⟩
  · rw [getD_marker hat, hh0]
  · rw [show t * stepLen cells nz h + 2 = t * stepLen cells nz h + 1 + 1 from rfl, getD_payload hat (i := 1) hh2, g2,
      ← Nat.add_zero (t * stepLen cells nz h + 1), getD_payload hat (i := 0) (Nat.lt_of_succ_lt hh2), g1]
    rfl
  · rw [getD_marker hD, hc0 c0 (hsl ▸ List.mem_cons_self)]

/-- from the first data record of the second step, the search lands on one time header after the other -/
theorem findEnd_spec (hnz : 1 ≤ nz) (e : Nat → DT)
    (he : ∀ i (hi : i < steps.length), dtOf steps[i] = e i) (hT : 2 ≤ steps.length) (fuel : Nat)
    (hf : steps.length - 1 ≤ fuel) :
    findEnd (encode steps) nz fuel (1 * stepLen cells nz h + (h + 2)) (e 1) = e (steps.length - 1) := by
  obtain ⟨T, hlen⟩ : ∃ T, steps.length = T + 2 := Nat.exists_eq_add_of_le' hT
  -- from behind the header of step `t`, `2·nz + 1` records on
  have hadv : ∀ t, t < steps.length → advance (encode steps) (2 * nz + 1) (t * stepLen cells nz h + (h + 2)) =
      if T + 2 ≤ t + 1 then none else some ((t + 1) * stepLen cells nz h) := by
    intro t ht
    obtain ⟨hn, hp⟩ := data_run_length hall t ht
    have := advance_over _ _ _ (List.append_ne_nil_of_right_ne_nil _ (List.cons_ne_nil _ _)) (after_header hall t ht)
    rwa [hn, hp, if_congr (encode_drop_eq_nil steps (t + 1)) rfl rfl, hlen] at this
  have h812 := hdr_bytes (hdr_two_or_three hall (Nat.lt_of_lt_of_le Nat.two_pos hT))
  rw [hlen] at hf ⊢
  refine Nat.fuel_loop (loop := fun fuel (p : Nat × DT) => findEnd (encode steps) nz fuel p.1 p.2)
    (x := fun i => ((i + 1) * stepLen cells nz h + (h + 2), e (i + 1))) (res := fun _ => e (T + 1))
    (d := T) (e := 1) ?_ ?_ fuel hf
  · intro fuel i hi ih
    have ht1 : i + 1 + 1 < steps.length := hlen ▸ Nat.add_lt_add_right hi 2
    obtain ⟨hm, hroom, hdt, hnext, -⟩ := reads_at_header hall hnz (i + 1 + 1) ht1
    dsimp only
    rw [findEnd, hadv (i + 1) (Nat.lt_of_succ_lt ht1), if_neg (Nat.not_le.mpr (Nat.add_lt_add_right hi 2))]
    simp only [hm]
    rw [if_pos h812, Nat.mul_div_cancel_left h (Nat.succ_pos 3), if_neg hroom, hdt, hnext, he _ ht1]
    exact ih
  · intro fuel
    dsimp only
    rw [findEnd, hadv (T + 1) (hlen ▸ Nat.lt_succ_self _), if_pos (Nat.le_refl _)]

theorem findHeader_first (hc4 : 4 ≤ cells) (hT0 : 0 < steps.length) :
    findHeader (encode steps) (4 * h) (encode steps).length (h + 2) 0 =
      some (if steps.length ≤ 1 then .inl (2 * nz) else .inr (2 * nz + 1, stepLen cells nz h)) := by
  obtain ⟨-, hc0, -⟩ := hall steps[0] (List.getElem_mem hT0)
  obtain ⟨hn, hp⟩ := data_run_length hall 0 hT0
  have h23 := hdr_two_or_three hall hT0
  have hfuel : 2 * nz + 1 + 1 ≤ (encode steps).length := by
    rw [encode_length hall]
    exact Nat.le_trans (stepLen_ge cells nz h) (Nat.le_mul_of_pos_left _ hT0)
  have hrest : encode (steps.drop (0 + 1)) ≠ [] → (encode (steps.drop (0 + 1))).headD 0 = 4 * h := by
    intro hne
    have hT1 : 0 + 1 < steps.length := Nat.lt_of_not_le fun hle => hne ((encode_drop_eq_nil steps _).mpr hle)
    rw [List.drop_eq_getElem_cons hT1, encode_cons_recs, headD_frame, (hall _ (List.getElem_mem hT1)).2.2]
  have := findHeader_over (4 * h) _ hrest (steps[0].slabs ++ [[0]]) _ 0 (encode steps).length
    (List.append_ne_nil_of_left_ne_nil
      (mt encodeRecs_eq_nil (List.append_ne_nil_of_right_ne_nil _ (List.cons_ne_nil _ _))) _) (after_header hall 0 hT0) (by
      intro d hd
      rcases List.mem_append.mp hd with hd | hd
      · rw [hc0 d hd]
        omega
      · rw [List.mem_singleton.mp hd]
        show 4 * 1 ≠ 4 * h
        omega) (by rw [hn]; exact hfuel)
  rw [hn, hp] at this
  simpa only [Nat.zero_mul, Nat.zero_add, Nat.one_mul, Nat.add_sub_cancel, encode_drop_eq_nil] using this

variable {start : DT} {step : Int}

theorem fetch_spec (hnz : 1 ≤ nz) (ax : Axis start step) {i k uv : Nat} (hi : i < steps.length) (hk : k < nz) (huv : uv = 1 ∨ uv = 2) :
    fetch (encode steps) cells h nz (cells + 2) start (iter start step (steps.length - 1)) step (iter start step i) (k + 1) uv =
      some ((steps[i].slabs).getD (2 * k + (uv - 1)) []) := by
  obtain ⟨hrl, rest, hat⟩ := at_slab hall i (2 * k + (uv - 1)) hi (by omega)
  obtain ⟨hin, hfit⟩ := fits_of_drop hat
  have hpay := slice_payload hat
  rw [hrl] at hfit hpay
  -- the reader's byte position, in words, is where `at_slab` finds the slab
  have hq : (i : Int) * ((h + 2 : Nat) : Int) + (i : Int) * 3 + (i : Int) * (nz : Int) * ((cells + 2 : Nat) : Int) * 2 +
      ((h + 2 : Nat) : Int) + (((k + 1 - 1) * 2 * (cells + 2) + (uv - 1) * (cells + 2) : Nat) : Int) =
      ((i * stepLen cells nz h + (h + 2) + (2 * k + (uv - 1)) * (cells + 2) : Nat) : Int) := by
    unfold stepLen
    rw [Nat.add_sub_cancel]
    push_cast
    ring
  unfold fetch
  rw [if_neg (ax.in_range (ax.diff _) (Nat.le_sub_one_of_lt hi))]
  simp only [ax.tdiv (ax.diff i), Int.mul_tdiv_cancel _ (Int.natCast_ne_zero.mpr (Nat.ne_of_gt hnz)), hq, Int.toNat_natCast]
  rw [if_neg hin, if_neg hfit, hpay]

theorem fetch_all (hnz : 1 ≤ nz) (ax : Axis start step) (uv : Nat) (huv : uv = 1 ∨ uv = 2) :
    List.mapM (fun dt => List.mapM (fun ki =>
        fetch (encode steps) cells h nz (cells + 2) start (iter start step (steps.length - 1)) step dt (ki + 1) uv) (List.range nz))
      (List.map (iter start step) (List.range steps.length)) =
    some ((List.range steps.length).map (fun i => (List.range nz).map (fun k =>
      ((steps.getD i noStep).slabs).getD (2 * k + (uv - 1)) []))) := by
  rw [List.mapM_map]
  refine List.mapM_some (fun i => (List.range nz).map (fun k => ((steps.getD i noStep).slabs).getD (2 * k + (uv - 1)) [])) ?_
  intro i hi
  have hi' : i < steps.length := List.mem_range.mp hi
  refine List.mapM_some (fun k => ((steps.getD i noStep).slabs).getD (2 * k + (uv - 1)) []) ?_
  intro k hk
  rw [List.getD_of_lt steps noStep hi']
  exact fetch_spec hall hnz ax hi' (List.mem_range.mp hk) huv

end layout

section
variable {cells nz h : Nat} {steps : List WStep} {start : DT} {step : Int}

/-- `4 ≤ cells`: a smaller data record has the size of a time header.  The axis may cross midnights inside one year
only: `timeadd` carries a day as date + 1.  For a file of one step the axis is the start alone, the reader takes a
nominal step of 100. -/
theorem read_encode (wf : WFw cells nz h steps) (hc4 : 4 ≤ cells) (ax : Axis start step)
    (htimes : ∀ i (hi : i < steps.length), dtOf steps[i] = iter start step i) :
    read cells (encode steps) = some (viewOf nz steps start step) := by
  obtain ⟨hne, -, hnz, h23, hall⟩ := wf
  have hT0 : 0 < steps.length := List.length_pos_iff.mpr hne
  obtain ⟨hm0, hroom, hstart, hnext0, hrs⟩ := reads_at_header hall hnz 0 hT0
  replace hstart : _ = start := hstart.trans (htimes 0 hT0)
  have hfh := findHeader_first hall hc4 hT0
  simp only [Nat.zero_mul, Nat.zero_add] at hm0 hroom hstart hnext0 hrs
  have hp1 : nextStay (encode steps) 0 = h + 2 := by
    rw [nextStay, hnext0]
    rfl
  have hne' : (encode steps).isEmpty = false :=
    List.isEmpty_eq_false_iff.mpr fun he => Nat.not_le.mpr hT0 ((encode_drop_eq_nil steps 0).mp he)
  have h812 := hdr_bytes h23
  have hnzdiv : 2 * nz / 2 = nz := Nat.mul_div_cancel_left nz Nat.two_pos
  by_cases hT1 : steps.length ≤ 1
  · -- one step: the reader's axis is `start` with the nominal step
    have hlen : steps.length = 1 := Nat.le_antisymm hT1 hT0
    have ax1 : Axis start 100 := ⟨ax.t0, by decide⟩
    have htr : trange 2400 100 (timeadd 2400 start 100) 2 (timeadd 2400 start 0) = some ((List.range 1).map (iter start 100)) := by
      rw [ax1.timeadd_zero_start]
      exact ax1.trange_iter 1 2 (Nat.le_refl _)
    have hf := fun uv huv => fetch_all (start := start) (step := 100) hall hnz ax1 uv huv
    simp only [hlen, Nat.sub_self, iter] at hf
    rw [if_pos hT1] at hfh
    unfold read
    simp only [hne', Bool.false_eq_true, if_false, hm0, h812, not_true_eq_false, hstart, hp1, hrs, hfh,
      Nat.mul_mod_right, ne_eq, Nat.mul_div_cancel_left _ (Nat.succ_pos 3), hnzdiv, htr]
    rw [if_neg hroom, hf 1 (Or.inl rfl), hf 2 (Or.inr rfl)]
    simp only [viewOf, hlen]
    rfl
  · -- a second header: it gives the step, and the end search from behind it the last time
    have hT2 : 1 < steps.length := Nat.lt_of_not_le hT1
    obtain ⟨-, hroom1, hsecond, hnext1, -⟩ := reads_at_header hall hnz 1 hT2
    rw [htimes 1 hT2] at hsecond
    have hfe := findEnd_spec hall hnz (iter start step) htimes hT2 (encode steps).length (by
      rw [encode_length hall]
      exact Nat.le_trans (Nat.sub_le _ _) (Nat.le_mul_of_pos_right _ (stepLen_pos cells nz h)))
    rw [Nat.one_mul] at hroom1 hsecond hnext1 hfe
    have hcnt := (ax.count hT0 (ax.diff (steps.length - 1))).1
    have htr := ax.trange_last steps.length (steps.length + 1) hT0 (Nat.le_refl _)
    rw [if_neg hT1] at hfh
    unfold read
    simp only [hne', Bool.false_eq_true, if_false, hm0, h812, not_true_eq_false, hstart, hp1, hrs, hfh,
      Nat.mul_mod_right, ne_eq, Nat.mul_div_cancel_left _ (Nat.succ_pos 3),
      Nat.add_sub_cancel, hnzdiv, hsecond, ax.diff_one, hnext1, hfe, hcnt, Int.toNat_natCast, htr]
    rw [if_neg hroom, if_neg hroom1, if_neg (Int.ne_of_gt ax.st.1), if_neg (Int.not_lt.mpr (Int.natCast_nonneg _))]
    rw [fetch_all hall hnz ax 1 (Or.inl rfl), fetch_all hall hnz ax 2 (Or.inr rfl)]
    simp only [Option.map_some, List.length_map, List.length_range, Nat.sub_self, List.replicate_zero, List.append_nil]
    rfl

end

/-! ### the files the agreement theorems of C13 are stated for -/

/-- a wind file with a regular time axis: at least two steps, one `timeadd` apart, grids of at least four cells -/
structure RegW (cells nz h : Nat) (steps : List WStep) (start : DT) (step : Int) : Prop where
  wf : WFw cells nz h steps
  two : 2 ≤ steps.length
  cells4 : 4 ≤ cells
  t0 : 0 ≤ start.2 ∧ start.2 < 2400
  st : 0 < step ∧ step ≤ 2400
  times : ∀ i (hi : i < steps.length), dtOf steps[i] = iter start step i

/-- a wind file of one step: at least four cells (a smaller data record has the size of a time header), the HHMM part
of the time a time of day -/
structure OneW (cells nz h : Nat) (s : WStep) : Prop where
  wf : WFw cells nz h [s]
  cells4 : 4 ≤ cells
  t0 : 0 ≤ (dtOf s).2 ∧ (dtOf s).2 < 2400

variable {cells nz h : Nat} {s : WStep}

theorem read_encode_one (o : OneW cells nz h s) :
    read cells (encode [s]) = some (viewOf nz [s] (dtOf s) 100) :=
  read_encode o.wf o.cells4 ⟨o.t0, by decide⟩ fun i hi => by
    cases Nat.lt_one_iff.mp hi
    rfl

end WindRec
