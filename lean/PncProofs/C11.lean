import PncProofs.C10
/-!
C11 — IOAPI subsetting preserves geo- and time-referencing.

For a window given as an integer (positive or negative) or a unit-stride slice, the selected indices are a
contiguous run `first, first+1, …` (`window_contiguous`).  The theorems below are about the state
`sliceDimensions` produces (`Ioapi.opSlice`): the cell `j` of the result has the projected coordinate of the
source cell `first + j` (`origin_x`, `origin_y`), the level edges are the matching sub-range with one more
entry than layers (`levels_window`), the start date/time are the flag of the first selected step
(`start_is_first_selected`), and the TFLAG rows / decoded times are the selected sub-range of the source's
(`time_window`).
-/
namespace Props.C11
open Ioapi Cal TimeDec PySlice Props.C10

/-- integer and unit-stride windows select a contiguous run of indices -/
theorem window_contiguous (n : Nat) (w : Win) (i : List Nat) (hu : w.unit = true) (h : winIdx n w = some i) :
    ∀ j (hj : j < i.length), i[j] = i.headD 0 + j := by
  cases w with
  | sl a b st => cases hu
  | lst l => cases hu
  | int v =>
    obtain ⟨k, -, rfl⟩ := Option.map_eq_some_iff.mp h
    intro j hj
    obtain rfl : j = 0 := by simpa using hj
    rfl
  | slc a b =>
    obtain rfl : rangeList (sliceBounds n a b 1).1 (sliceBounds n a b 1).2 1 = i := Option.some.inj h
    rw [rangeList_unit _ _ (Props.C02.sliceBounds_fwd n a b 1 (by decide)).1, ← List.range'_eq_map_range]
    intro j hj
    rw [List.getElem_range', Nat.one_mul]
    cases hm : ((sliceBounds n a b 1).2 - (sliceBounds n a b 1).1).toNat with
    | zero => simp [hm] at hj
    | succ m => rfl

/-- one axis; length, origin and cell size enter as equations, in the shape `congrArg` on `slice_frame` gives them -/
theorem origin_axis {n n' : Nat} {w : Win} {io : Option (List Nat)} {orig cell orig' cell' : Rat}
    (hio : idxOf n (some w) = some io) (hu : w.unit = true) (hn : n' = newLen n io)
    (ho : orig' = selOrig io orig cell) (hc : cell' = cell) :
    ∃ i, winIdx n w = some i ∧ n' = i.length ∧ cell' = cell ∧
      ∀ j (hj : j < i.length), orig' + (j : Rat) * cell' = orig + ((i[j] : Nat) : Rat) * cell := by
  obtain ⟨i, rfl, hwi, _, _⟩ := idxOf_named hio
  refine ⟨i, hwi, hn, hc, fun j hj => ?_⟩
  rw [ho, hc, window_contiguous n w i hu hwi j hj, selOrig]
  push_cast
  ring

/-- **columns**: cell `j` of the window has the x-coordinate of source cell `first + j` -/
theorem origin_x (s s' : St) (kw : Kw) (w : Win) (h : Coherent s) (ht : TimeOk s)
    (hs : opSlice s kw = some s') (hw : kw.c = some w) (hu : w.unit = true) :
    ∃ i, winIdx s.nC w = some i ∧ s'.nC = i.length ∧ s'.xcell = s.xcell ∧
      ∀ j (hj : j < i.length), s'.xorig + (j : Rat) * s'.xcell = s.xorig + ((i[j] : Nat) : Rat) * s.xcell := by
  obtain ⟨it, il, ir, ic, ip, _, _, _, hic, _, hf⟩ := slice_frame s s' kw h ht hs
  exact origin_axis (hw ▸ hic) hu (congrArg Frame.nC hf) (congrArg Frame.xorig hf) (congrArg Frame.xcell hf)

/-- **rows**: the same for the y-coordinate -/
theorem origin_y (s s' : St) (kw : Kw) (w : Win) (h : Coherent s) (ht : TimeOk s)
    (hs : opSlice s kw = some s') (hw : kw.r = some w) (hu : w.unit = true) :
    ∃ i, winIdx s.nR w = some i ∧ s'.nR = i.length ∧ s'.ycell = s.ycell ∧
      ∀ j (hj : j < i.length), s'.yorig + (j : Rat) * s'.ycell = s.yorig + ((i[j] : Nat) : Rat) * s.ycell := by
  obtain ⟨it, il, ir, ic, ip, _, _, hir, _, _, hf⟩ := slice_frame s s' kw h ht hs
  exact origin_axis (hw ▸ hir) hu (congrArg Frame.nR hf) (congrArg Frame.yorig hf) (congrArg Frame.ycell hf)

/-- a dimension that is not named keeps its origin -/
theorem origin_unchanged (s s' : St) (kw : Kw) (h : Coherent s) (ht : TimeOk s)
    (hs : opSlice s kw = some s') :
    (kw.c = none → s'.xorig = s.xorig ∧ s'.nC = s.nC) ∧ (kw.r = none → s'.yorig = s.yorig ∧ s'.nR = s.nR) := by
  obtain ⟨it, il, ir, ic, ip, hit, _, hir, hic, _, hf⟩ := slice_frame s s' kw h ht hs
  constructor
  · intro hk
    rw [hk] at hic
    cases hic
    exact ⟨congrArg Frame.xorig hf, congrArg Frame.nC hf⟩
  · intro hk
    rw [hk] at hir
    cases hir
    exact ⟨congrArg Frame.yorig hf, congrArg Frame.nR hf⟩

/-- **layers**: the level edges of the window are the edges `first … first+m` of the source (one more than
layers), so every retained layer keeps its lower and upper bound -/
theorem levels_window (s s' : St) (kw : Kw) (w : Win) (h : Coherent s) (ht : TimeOk s)
    (hs : opSlice s kw = some s') (hw : kw.l = some w) (hu : w.unit = true) :
    ∃ i, winIdx s.nL w = some i ∧ s'.nL = i.length ∧ s'.vglvls.length = i.length + 1 ∧
      ∀ j, j ≤ i.length → s'.vglvls[j]? = s.vglvls[i.headD 0 + j]? := by
  obtain ⟨it, il, ir, ic, ip, hit, hil, _, _, _, hf⟩ := slice_frame s s' kw h ht hs
  obtain ⟨i, rfl, hwi, hne, hlt⟩ := idxOf_named (hw ▸ hil)
  have hvg : s'.vglvls = sliceLevels s.vglvls i := congrArg Frame.vglvls hf
  have hv := h.vg
  rw [hvg]
  exact ⟨i, hwi, congrArg Frame.nL hf, sliceLevels_length s.vglvls i s.nL hv hne hlt,
    sliceLevels_getElem? s.vglvls i s.nL hv hne hlt (window_contiguous s.nL w i hu hwi)⟩

/-- **time, start**: the start date/time of the window are the time flag of the first selected step, and
the number of steps is the size of the window -/
theorem start_is_first_selected (s s' : St) (kw : Kw) (w : Win) (h : Coherent s) (ht : TimeOk s)
    (hs : opSlice s kw = some s') (hw : kw.t = some w) :
    ∃ i rows, winIdx s.nT w = some i ∧ s.tflag = some (s.varlist.length, rows) ∧ s'.nT = i.length ∧
      rows[i.headD 0]? = some (s'.sdate, s'.stime) := by
  obtain ⟨it, il, ir, ic, ip, hit, _, _, _, _, hf⟩ := slice_frame s s' kw h ht hs
  obtain ⟨i, rfl, hwi, hne, hlt⟩ := idxOf_named (hw ▸ hit)
  obtain ⟨rows, htf, hl, -⟩ := h.tflag
  refine ⟨i, rows, hwi, htf, congrArg Frame.nT hf, ?_⟩
  rw [show s'.sdate = (sliceStart s i).1 from congrArg Frame.sdate hf,
    show s'.stime = (sliceStart s i).2.1 from congrArg Frame.stime hf]
  exact sliceStart_eq_row s _ rows i htf hne (hl ▸ hlt) (ht.2 _ rows htf)

/-- **time, every step** (`_partial`: under the side condition that the window operation does not change the
number of listed variables — it never does for files whose standard-dimension variables are all listed; the
harness checks it on every case): the time flags of the window are the selected rows of the source, hence
the decoded times are the same sub-range of the source's decoded times. -/
theorem time_window_partial (s s' : St) (kw : Kw) (w : Win) (h : Coherent s) (ht : TimeOk s)
    (hs : opSlice s kw = some s') (hw : kw.t = some w) (hsame : s'.varlist.length = s.varlist.length) :
    ∃ i, winIdx s.nT w = some i ∧ getTimes s' = pickL i (getTimes s) := by
  obtain ⟨it, il, ir, ic, ip, hit, _, _, _, _, rfl⟩ := opSlice_some hs
  obtain ⟨rows, htf, htp, _⟩ := slicePre_time s it il ir ic ip h ht hit
  obtain ⟨i, rfl, hwi, _, _⟩ := idxOf_named (hw ▸ hit)
  refine ⟨i, hwi, ?_⟩
  rw [(norm_updatemeta _).2] at hsame
  -- TFLAG is as wide as the list `updatemeta` leaves, so it is kept
  have hk : (attrs (getVarlist (slicePre s (some i) il ir ic ip))).tflag =
      some ((attrs (getVarlist (slicePre s (some i) il ir ic ip))).nvars, pickL i rows) := by
    rw [tflag_attrs, tflag_getVarlist, htp, ← hsame]
    rfl
  rw [updatemeta_def, updatetflag_keep _ _ hk, getTimes, hk, getTimes, htf]
  exact (pickL_map _ i rows).symm

/-- the hypotheses are met by a real case: a window that crosses the year boundary, moves the origin by one
cell and keeps the lowest layer (`Coherent exSt ∧ TimeOk exSt` is `Props.C10.exSt_coherent`) -/
example : ∃ s', opSlice exSt { t := some (.int (-1)), c := some (.slc (some 1) none), l := some (.slc none (some 1)) }
      = some s' ∧ s'.sdate = 2020001 ∧ s'.stime = 0 ∧ s'.xorig = 1000 ∧ s'.vglvls = [1, 1/2] ∧
      s'.varlist.length = exSt.varlist.length := by
  decide +kernel

/-! ### the side condition of `time_window_partial` discharged -/

/-- every variable that could be listed is listed, and no two variables share a name (true of every file the
library builds: `updatemeta` lists all standard-dimension variables with names of at most 16 characters) -/
structure AllListed (s : St) : Prop where
  all : ∀ k, listable s k = true → k ∈ s.varlist
  nodup : (s.vars.map (·.name)).Nodup

/-- **a window operation never changes which variables are listed** (for files whose listable variables are
all listed) -/
theorem slice_keeps_varlist (s s' : St) (kw : Kw) (h : Coherent s) (ht : TimeOk s) (ha : AllListed s)
    (hn : 1 ≤ s.varlist.length) (hs : opSlice s kw = some s') : s'.varlist = s.varlist := by
  obtain ⟨it, il, ir, ic, ip, _, _, _, _, _, rfl⟩ := opSlice_some hs
  have hvars : (slicePre s it il ir ic ip).vars = s.vars :=
    (vars_copyVarsInto _ s _).trans (putAll_vars s.vars (sliceShell s it il ir ic ip) ha.nodup)
  have hI : (slicePre s it il ir ic ip).varlist.filter (listable s) = s.varlist :=
    (congrArg _ (varlist_copyVarsInto _ s _)).trans
      (filter_listable_putAll s ha.all s.vars (sliceShell s it il ir ic ip) (List.filter_eq_self.mpr h.listed))
  have hne : ¬ ((slicePre s it il ir ic ip).varlist.isEmpty = true) := fun e => by
    rw [List.isEmpty_iff.mp e] at hI
    rw [← hI] at hn
    exact Nat.not_succ_le_zero 0 hn
  -- getVarlist filters the listable names out of it
  rw [(norm_updatemeta _).2, ← hI]
  simp only [getVarlist, hne, if_false, Bool.false_eq_true]
  exact List.filter_congr fun k _ => listable_congr hvars k

/-- **time, every step (C11, full)**: the decoded times of a time window are the selected sub-range of the
source's decoded times — for every coherent file whose listable variables are all listed, any window -/
theorem time_window (s s' : St) (kw : Kw) (w : Win) (h : Coherent s) (ht : TimeOk s) (ha : AllListed s)
    (hn : 1 ≤ s.varlist.length) (hs : opSlice s kw = some s') (hw : kw.t = some w) :
    ∃ i, winIdx s.nT w = some i ∧ getTimes s' = pickL i (getTimes s) :=
  time_window_partial s s' kw w h ht hs hw (by rw [slice_keeps_varlist s s' kw h ht ha hn hs])

example : AllListed exSt := by
  refine ⟨?_, by decide +kernel⟩
  intro k hk
  unfold listable at hk
  simp only [Bool.and_eq_true, List.any_eq_true] at hk
  obtain ⟨⟨v, hv, hname, hstd⟩, _⟩ := hk
  have hk' : k = v.name := (beq_iff_eq.mp hname).symm
  subst hk'
  revert v
  decide +kernel

end Props.C11
