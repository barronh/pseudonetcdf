import PncProofs.NamesLemmas
import PncProofs.C01

/-!
# C06 — file arithmetic, eval and mask follow masked-array semantics: property theorems
-/
namespace Props.C06
open Arr PFile Props.C01

/-- **C06 (elementwise).** Every cell of the result of a cell-wise combination is the combination
of the operands' cells at the same multi-index — for two arrays of one shape, any rank. -/
theorem zip_get (g : Cell → Cell → Cell) : ∀ (sh : List Nat) (a b : Arr Cell) (idx : List Nat),
    hasShape sh a = true → hasShape sh b = true →
    Arr.get (zipCells g a b) idx = match Arr.get a idx, Arr.get b idx with
      | some x, some y => some (g x y)
      | _, _ => none
  | [], a, b, idx, ha, hb => by
    obtain ⟨x, rfl⟩ := hasShape_nil.mp ha
    obtain ⟨y, rfl⟩ := hasShape_nil.mp hb
    cases idx <;> rfl
  | n :: sh, a, b, idx, ha, hb => by
    obtain ⟨xs, rfl, rfl, hx⟩ := hasShape_cons.mp ha
    obtain ⟨ys, rfl, _, hy⟩ := hasShape_cons.mp hb
    cases idx with
    | nil => rfl
    | cons i idx =>
      rw [zipCells, zipCellsL_eq_zipWith, get_node, get_node, get_node, List.getElem?_zipWith]
      cases hxi : xs[i]? with
      | none => rfl
      | some x =>
        cases hyi : ys[i]? with
        | none => simp
        | some y => exact zip_get g sh x y idx (hx x (List.mem_of_getElem? hxi)) (hy y (List.mem_of_getElem? hyi))

theorem mapCells_get {α} (g : α → α) : ∀ (idx : List Nat) (a : Arr α),
    Arr.get (mapCells g a) idx = (Arr.get a idx).map g
  | [], .leaf x => rfl
  | [], .node xs => rfl
  | _ :: _, .leaf x => rfl
  | i :: idx, .node xs => by
    rw [mapCells, mapCellsL_eq_map, get_node, get_node, List.getElem?_map]
    cases xs[i]? with
    | none => rfl
    | some x => exact mapCells_get g idx x

/-- **C06 (operator cell semantics).** A cell of `a op b` is masked iff an operand cell is masked or
the numpy result is not finite (division/modulo by zero, 0 to a negative power); otherwise it is
the exact arithmetic result. -/
theorem op_masked_operand (op : Op) (isInt dom : Bool) (b : Cell) :
    op.cell isInt none b dom = none ∧ ∀ a, op.cell isInt a none dom = none := by
  refine ⟨rfl, fun a => ?_⟩
  cases a <;> rfl

theorem op_add_mul (x y : ℚ) (isInt dom : Bool) :
    Op.add.cell isInt (some x) (some y) dom = some (x + y) ∧
    Op.sub.cell isInt (some x) (some y) dom = some (x - y) ∧
    Op.mul.cell isInt (some x) (some y) dom = some (x * y) := ⟨rfl, rfl, rfl⟩

theorem op_div_zero (x : ℚ) (isInt dom : Bool) : Op.div.cell isInt (some x) (some 0) dom = none := by
  unfold Op.cell
  exact if_pos rfl

theorem op_div (x y : ℚ) (hy : y ≠ 0) (isInt dom : Bool) :
    Op.div.cell isInt (some x) (some y) dom = some (x / y) := by
  unfold Op.cell
  exact if_neg hy

/-- **C06 (coordinate variables pass through).** -/
theorem coords_passthrough (op : Op) (f1 f2 : File) (coords : List String) (v : Var)
    (h : coords.contains v.name = true) : binopVar op f1 f2 coords v = v := by
  unfold binopVar
  rw [if_pos h]

/-- a variable missing in the right operand is copied from the left -/
theorem missing_right_copied (op : Op) (f1 f2 : File) (coords : List String) (v : Var)
    (h : f2.var? v.name = none) : binopVar op f1 f2 coords v = v := by
  unfold binopVar
  -- with `h` the second branch is `v` as well
  rw [h]
  exact ite_self _

theorem optHit_iff (o : Option ℚ) (p : ℚ → Prop) [DecidablePred p] :
    (match o with | some g => decide (p g) | none => false) = true ↔ ∃ g, o = some g ∧ p g := by
  cases o with
  | none => exact ⟨fun h => (nomatch h), fun ⟨_, h, _⟩ => (nomatch h)⟩
  | some g => exact ⟨fun h => ⟨g, rfl, of_decide_eq_true h⟩, fun ⟨_, h, hp⟩ => decide_eq_true (Option.some.inj h ▸ hp)⟩

theorem maskHit_iff (m : MaskSpec) (w : Cell) (x : ℚ) :
    maskHit m w x = true ↔
      (w = some 1 ∨ w = some 2 ∨ (∃ g, m.greater = some g ∧ x > g) ∨ (∃ g, m.greaterEq = some g ∧ x ≥ g) ∨
       (∃ g, m.less = some g ∧ x < g) ∨ (∃ g, m.lessEq = some g ∧ x ≤ g) ∨ (∃ g, m.equal = some g ∧ g = x)) := by
  unfold maskHit
  simp only [Bool.or_eq_true, beq_iff_eq, or_assoc]
  exact or_congr Iff.rfl (or_congr Iff.rfl (or_congr (optHit_iff _ (x > ·)) (or_congr (optHit_iff _ (x ≥ ·))
    (or_congr (optHit_iff _ (x < ·)) (or_congr (optHit_iff _ (x ≤ ·)) (optHit_iff _ (· = x)))))))

/-- **C06 (mask, exactness).** A cell is masked afterwards iff it was masked before or satisfies
one of the given predicates (or the `where` array is true or masked there); an unmasked cell keeps its value exactly. -/
theorem mask_exact (m : MaskSpec) (w : Cell) (x : ℚ) :
    (maskCell m w (some x) = none ↔
      (w = some 1 ∨ w = some 2 ∨ (∃ g, m.greater = some g ∧ x > g) ∨ (∃ g, m.greaterEq = some g ∧ x ≥ g) ∨
       (∃ g, m.less = some g ∧ x < g) ∨ (∃ g, m.lessEq = some g ∧ x ≤ g) ∨ (∃ g, m.equal = some g ∧ g = x))) ∧
    (∀ y, maskCell m w (some x) = some y → y = x) ∧ maskCell m w none = none := by
  rw [← maskHit_iff]
  unfold maskCell
  dsimp only
  refine ⟨?_, fun y h => ?_, rfl⟩
  · split
    · exact ⟨fun _ => ‹_›, fun _ => rfl⟩
    · exact ⟨fun h => (nomatch h), fun h => absurd h ‹_›⟩
  · split at h
    · cases h
    · exact (Option.some.inj h).symm

/-- non-vacuity / a worked example: (masked, 3) // (2, 0) for masked integer operands -/
example : Op.floordiv.cell true none (some 2) true = none ∧
    Op.floordiv.cell true (some 3) (some 0) true = none ∧
    Op.floordiv.cell true (some 3) (some 0) false = some 0 ∧
    Op.floordiv.cell true (some (-7)) (some 2) false = some (-4) ∧
    Op.mod.cell true (some (-7)) (some 2) false = some 1 := by
  decide +kernel

/-- an index that lies inside a shape -/
def InShape : List Nat → List Nat → Prop
  | [], [] => True
  | i :: idx, n :: sh => i < n ∧ InShape idx sh
  | _, _ => False

theorem inShape_iff_valid : ∀ {idx sh : List Nat}, InShape idx sh ↔ Valid idx sh
  | [], [] => Iff.rfl
  | [], _ :: _ => Iff.rfl
  | _ :: _, [] => Iff.rfl
  | _ :: _, _ :: _ => and_congr_right fun _ => inShape_iff_valid

theorem get_some_of_inShape {α} (sh : List Nat) (a : Arr α) (idx : List Nat) (h : hasShape sh a = true)
    (hi : InShape idx sh) : ∃ c, Arr.get a idx = some c :=
  get_some_of_valid sh a idx h (inShape_iff_valid.mp hi)

/-- the cell of a tabulated array -/
theorem get_build {α} : ∀ (sh : List Nat) (f : List Nat → α) (idx : List Nat), InShape idx sh →
    Arr.get (Arr.build sh f) idx = some (f idx)
  | [], f, [], _ => rfl
  | [], _, _ :: _, h => h.elim
  | _ :: _, _, [], h => h.elim
  | n :: sh, f, i :: idx, h => by
    rw [Arr.build, get_node, List.getElem?_map, List.getElem?_range h.1]
    exact get_build sh (fun idx => f (i :: idx)) idx h.2

/-- **C06 (a one-step / one-layer right operand).** The right operand stretched to the left shape has, at every index
of the left shape, the cell of the right operand at that index with the axes of length one read at 0 — its value or its
missing-ness, which `zipCells` then combines with the left cell like any other pair of cells. -/
theorem bcast_cell (sv sw : List Nat) (a : Arr Cell) (idx : List Nat) (h : InShape idx sv) :
    Arr.get (bcast sv sw a) idx =
      some ((Arr.get a (List.zipWith (fun i n => if n == 1 then 0 else i) idx sw)).getD (none : Cell)) := by
  unfold bcast
  exact get_build sv _ idx h

/-- a right operand of the same shape is taken as it is -/
theorem rightData_same (f1 f2 : File) (v w : Var) (h : f1.shapeOf v = f2.shapeOf w) :
    rightData f1 f2 v w = w.data :=
  if_pos (beq_iff_eq.mpr h)

/-- non-vacuity: a 2 x 3 left shape against a 1 x 3 right operand whose middle cell is missing -/
example : bcastOk [2, 3] [1, 3] = true ∧ bcastOk [1, 3] [2, 3] = false ∧
    Arr.get (bcast [2, 3] [1, 3] (.node [.node [.leaf (some 5), .leaf none, .leaf (some 7)]])) [1, 1] = some none ∧
    Arr.get (bcast [2, 3] [1, 3] (.node [.node [.leaf (some 5), .leaf none, .leaf (some 7)]])) [1, 2] = some (some 7) := by
  decide +kernel

/-- the specification: the value of an expression at one multi-index, from the cells of the file's variables at that
index (`none` when a name is not a variable of the file) -/
def cellSpec (f : File) (idx : List Nat) : Expr → Option Cell
  | .var n => (f.var? n).bind (fun v => Arr.get v.data idx)
  | .lit q => some (some q)
  | .neg a => (cellSpec f idx a).map (fun c => c.map (fun x => -x))
  | .mlt a q => (cellSpec f idx a).map (fun c => match c with
      | some x => if x < q then none else some x
      | none => none)
  | .minv a => cellSpec f idx a
  | .bin op a b => match cellSpec f idx a, cellSpec f idx b with
    | some x, some y => some (op.cell false x y)
    | _, _ => none

/-- the conclusion of `eval_pointwise`, with `spec idx = cellSpec f idx e`.  A cell-wise map and a cell-wise combination
keep it; the theorem is then the induction over the expression. -/
def Computes (sh : List Nat) (r : Arr Cell) (spec : List Nat → Option Cell) : Prop :=
  hasShape sh r = true ∧ ∀ idx, InShape idx sh → some (Arr.get r idx) = (spec idx).map some

theorem Computes.cell {sh : List Nat} {r : Arr Cell} {spec : List Nat → Option Cell} (h : Computes sh r spec)
    {idx : List Nat} (hi : InShape idx sh) : ∃ c, spec idx = some c ∧ Arr.get r idx = some c := by
  have := h.2 idx hi
  cases hs : spec idx with
  | none =>
    rw [hs] at this
    cases this
  | some c =>
    rw [hs] at this
    exact ⟨c, rfl, Option.some.inj this⟩

theorem Computes.map (g : Cell → Cell) {sh : List Nat} {r : Arr Cell} {spec : List Nat → Option Cell}
    (h : Computes sh r spec) : Computes sh (mapCells g r) (fun idx => (spec idx).map g) := by
  refine ⟨mapCells_hasShape _ sh r h.1, fun idx hi => ?_⟩
  obtain ⟨c, hs, hc⟩ := h.cell hi
  dsimp only
  rw [mapCells_get, hs, hc]
  rfl

theorem Computes.zip (g : Cell → Cell → Cell) {sh : List Nat} {a b : Arr Cell} {sa sb : List Nat → Option Cell}
    (ha : Computes sh a sa) (hb : Computes sh b sb) :
    Computes sh (zipCells g a b) (fun idx => match sa idx, sb idx with | some x, some y => some (g x y) | _, _ => none) := by
  refine ⟨zipCells_hasShape _ sh a b ha.1 hb.1, fun idx hi => ?_⟩
  obtain ⟨c1, hs1, hc1⟩ := ha.cell hi
  obtain ⟨c2, hs2, hc2⟩ := hb.cell hi
  dsimp only
  rw [zip_get _ sh a b idx ha.1 hb.1, hs1, hc1, hs2, hc2]
  rfl

/-- **C06 (eval).** For an expression over variables of one shape, the array `eval` computes has that shape and, at every
index of the shape, the value obtained by combining the variables' cells at that index: operators act cell by cell with
masked-array semantics (`op_masked_operand`, `op_add_mul`, `op_div`, `op_div_zero`), a literal is itself everywhere,
`masked_less` masks the cells below the bound, nothing else is masked or changed. -/
theorem eval_pointwise (f : File) (sh : List Nat) (s : Arr Cell) (hs : hasShape sh s = true)
    (e : Expr) (hv : ∀ n ∈ e.vars, ∀ v, f.var? n = some v → hasShape sh v.data = true)
    (r : Arr Cell) (he : e.eval f s = some r) :
    hasShape sh r = true ∧ ∀ idx, InShape idx sh → some (Arr.get r idx) = (cellSpec f idx e).map some := by
  induction e generalizing r with
  | var n =>
    obtain ⟨v, hn, rfl⟩ := Option.map_eq_some_iff.mp he
    have hsv := hv n List.mem_cons_self v hn
    refine ⟨hsv, fun idx hi => ?_⟩
    obtain ⟨c, hc⟩ := get_some_of_inShape sh v.data idx hsv hi
    unfold cellSpec
    rw [hn, Option.bind_some, hc]
    rfl
  | lit q =>
    cases he
    refine ⟨mapCells_hasShape _ sh s hs, fun idx hi => ?_⟩
    obtain ⟨c, hc⟩ := get_some_of_inShape sh s idx hs hi
    unfold constLike
    rw [mapCells_get, hc]
    rfl
  | neg a ih =>
    obtain ⟨ra, ha, rfl⟩ := Option.map_eq_some_iff.mp he
    exact Computes.map _ (ih hv ra ha)
  | mlt a q ih =>
    obtain ⟨ra, ha, rfl⟩ := Option.map_eq_some_iff.mp he
    exact Computes.map _ (ih hv ra ha)
  | minv a ih => exact ih hv r he
  | bin op a b iha ihb =>
    unfold Expr.eval at he
    split at he
    · rename_i ra rb ha hb
      cases he
      exact Computes.zip _ (iha (fun n hn => hv n (List.mem_append_left _ hn)) ra ha)
        (ihb (fun n hn => hv n (List.mem_append_right _ hn)) rb hb)
    · cases he

/-- non-vacuity: `A * 2 - B` on a file with a masked cell in `B` -/
example :
    let f : File := ⟨[⟨"x", 2, false⟩], [⟨"A", ["x"], .node [.leaf (some 3), .leaf (some 4)], [], false, false⟩,
      ⟨"B", ["x"], .node [.leaf none, .leaf (some 1)], [], true, false⟩], []⟩
    let e : Expr := .bin .sub (.bin .mul (.var "A") (.lit 2)) (.var "B")
    (e.eval f (.node [.leaf (some 3), .leaf (some 4)])).map (fun r => (Arr.get r [0], Arr.get r [1])) =
      some (some none, some (some 7)) ∧
    cellSpec f [1] e = some (some 7) ∧ cellSpec f [0] e = some none := by
  decide +kernel

/-- **`pncexpr`: a name of one of the file's variables means that variable**, whatever helper functions and physical
constants carry the same name (`g`, `c`, `h`, `k`, `R`, `e`, `pi`, `hour`, `bar` …); the reserved names are the exception -/
theorem pncexpr_resolves (f : File) (helpers consts : List String) (hn : NamesNodup f) (n : String) (v : Var)
    (hv : f.var? n = some v) (hr : n ∉ pncexprReserved) :
    (pncexprEnv f helpers consts).get n = some (.fileVar v) := by
  rw [pncexprReserved_closed] at hr
  have h1 : ∀ e : Env, ((e.update (fileBinds f)).update (others "module" ["ifile", "infile", "np", "datetime"])).get n =
      some (.fileVar v) := fun e => by rw [Env.get_update_others _ hr, Env.get_update_fileBinds hn _ hv]
  rw [pncexprEnv_closed, Env.get_fill_of_some _ _ _ (by rw [h1]; rfl), h1]

/-- `eval`: the same, with its reserved names -/
theorem eval_resolves (f : File) (hn : NamesNodup f) (n : String) (v : Var)
    (hv : f.var? n = some v) (hr : n ∉ evalReserved) : (evalEnv f).get n = some (.fileVar v) := by
  rw [evalReserved_closed] at hr
  have h1 := Env.get_update_fileBinds hn [] hv
  rw [evalEnv_closed, Env.get_update_others _ hr, Env.get_fill_of_some _ _ _ (by rw [h1]; rfl), h1]

/-- `pncexpr`: no name means a variable that is not the file's variable of that name -/
theorem pncexpr_sound (f : File) (helpers consts : List String) (hn : NamesNodup f) :
    Sound f (pncexprEnv f helpers consts) :=
  sound_steps f hn helpers consts _ [] (sound_nil f)

theorem eval_sound (f : File) (hn : NamesNodup f) : Sound f (evalEnv f) :=
  sound_steps f hn [] [] _ [] (sound_nil f)

/-- an expression evaluated through a namespace that resolves the file's names to the file's variables (and nothing
else to a variable) is the expression evaluated on the file's arrays -/
theorem evalIn_eq_eval (f : File) (env : Env) (s : Arr Cell) (e : Expr) (hs : Sound f env)
    (hr : ∀ n ∈ e.vars, ∀ v, f.var? n = some v → env.get n = some (.fileVar v)) :
    e.evalIn env s = e.eval f s := by
  induction e with
  | var n =>
    simp only [Expr.evalIn, Expr.eval]
    cases hv : f.var? n with
    | some v =>
      rw [hr n List.mem_cons_self v hv]
      rfl
    | none =>
      cases hg : env.get n with
      | none => rfl
      | some b =>
        cases b with
        | other w => rfl
        | fileVar w =>
          rw [hs n w hg] at hv
          cases hv
  | lit q => rfl
  | neg a ih => exact congrArg (Option.map _) (ih hr)
  | mlt a q ih => exact congrArg (Option.map _) (ih hr)
  | minv a ih => exact ih hr
  | bin op a b iha ihb =>
    rw [Expr.evalIn, Expr.eval, iha (fun n hn => hr n (List.mem_append_left _ hn)),
      ihb (fun n hn => hr n (List.mem_append_right _ hn))]

/-- **C06 (the expression front ends)**: `pncexpr` evaluates an expression on the file's arrays — the names of the
expression mean the file's variables, not the helper functions or the physical constants of the same name -/
theorem pncexpr_eq_eval (f : File) (helpers consts : List String) (s : Arr Cell) (e : Expr) (hn : NamesNodup f)
    (hr : ∀ n ∈ e.vars, n ∉ pncexprReserved) :
    e.evalIn (pncexprEnv f helpers consts) s = e.eval f s :=
  evalIn_eq_eval f _ s e (pncexpr_sound f helpers consts hn)
    (fun n hm v hv => pncexpr_resolves f helpers consts hn n v hv (hr n hm))

theorem evalns_eq_eval (f : File) (s : Arr Cell) (e : Expr) (hn : NamesNodup f)
    (hr : ∀ n ∈ e.vars, n ∉ evalReserved) : e.evalIn (evalEnv f) s = e.eval f s :=
  evalIn_eq_eval f _ s e (eval_sound f hn) (fun n hm v hv => eval_resolves f hn n v hv (hr n hm))

/-- the order matters: with the constants bound after the variables (the order before the repair), `g` of a file that has
a variable `g` is the constant -/
theorem constants_last_counterexample :
    let f : File := ⟨[⟨"x", 1, false⟩], [⟨"g", ["x"], .node [.leaf (some 2)], [], false, false⟩], []⟩
    (((Env.update [] (fileBinds f)).update (others "const" ["g"])).get "g") = some (.other "const") ∧
    (pncexprEnv f [] ["g"]).get "g" = some (.fileVar ⟨"g", ["x"], .node [.leaf (some 2)], [], false, false⟩) := by
  exact ⟨rfl, rfl⟩

theorem firstVar_mem_vars : ∀ (e : Expr) (n : String), e.firstVar = some n → n ∈ e.vars
  | .var _, _, h => Option.some.inj h ▸ List.mem_cons_self
  | .lit _, _, h => nomatch h
  | .neg a, n, h => firstVar_mem_vars a n h
  | .mlt a _, n, h => firstVar_mem_vars a n h
  | .minv a, n, h => firstVar_mem_vars a n h
  | .bin _ a b, n, h => by
    unfold Expr.firstVar at h
    split at h
    · rename_i m ha
      exact List.mem_append_left _ (firstVar_mem_vars a n (h ▸ ha))
    · exact List.mem_append_right _ (firstVar_mem_vars b n h)

theorem evalInto_ok {env : Env} {f g : File} {t : String} {e : Expr} (h : evalInto env f t e = .ok g) :
    ∃ tv dat, e.firstVar.bind (boundVar env) = some tv ∧ e.evalIn env tv.data = some dat ∧
      g = { f with vars := f.vars.filter (fun v => v.name != t) ++
        [{ tv with name := t, data := dat, attrs := evalAttrs tv, isInt := false }] } := by
  unfold evalInto at h
  split at h
  · cases h
  · split at h
    · cases h
    · exact ⟨_, _, ‹_›, ‹_›, (Except.ok.inj h).symm⟩

/-- **C06 (eval, in place).** `eval('t = expr', inplace=True)` and `pncexpr` keep the dimensions, the global attributes
and every other variable; the variable `t` they create holds the expression evaluated in the namespace. -/
theorem evalInto_spec (env : Env) (f g : File) (t : String) (e : Expr) (h : evalInto env f t e = .ok g) :
    g.dims = f.dims ∧ g.attrs = f.attrs ∧ (∀ n, n ≠ t → g.var? n = f.var? n) ∧
    ∃ tv dat, e.firstVar.bind (boundVar env) = some tv ∧ e.evalIn env tv.data = some dat ∧
      g.var? t = some { tv with name := t, data := dat, attrs := evalAttrs tv, isInt := false } := by
  obtain ⟨tv, dat, htv, hd, rfl⟩ := evalInto_ok h
  exact ⟨rfl, rfl, fun n hne => File.var?_replace_other rfl rfl hne, tv, dat, htv, hd, File.var?_replace_last rfl rfl⟩

theorem firstVar_bound {f : File} {env : Env} (hs : Sound f env) {e : Expr} {tv : Var}
    (h : e.firstVar.bind (boundVar env) = some tv) : ∃ m ∈ e.vars, f.var? m = some tv := by
  obtain ⟨m, hf, hb⟩ := Option.bind_eq_some_iff.mp h
  unfold boundVar at hb
  split at hb
  · cases hb
    exact ⟨m, firstVar_mem_vars e m hf, hs m _ ‹_›⟩
  · cases hb

theorem evalInto_creates (env : Env) (f g : File) (hs : Sound f env) (t : String) (e : Expr) (sh : List Nat)
    (hr : ∀ n ∈ e.vars, ∀ v, f.var? n = some v → env.get n = some (.fileVar v))
    (hv : ∀ n ∈ e.vars, ∀ v, f.var? n = some v → hasShape sh v.data = true)
    (h : evalInto env f t e = .ok g) :
    ∃ nv, g.var? t = some nv ∧ Computes sh nv.data (fun idx => cellSpec f idx e) := by
  obtain ⟨_, _, _, tv, dat, htv, hd, hg⟩ := evalInto_spec _ f g t e h
  rw [evalIn_eq_eval f env tv.data e hs hr] at hd
  obtain ⟨m, hm, hfm⟩ := firstVar_bound hs htv
  exact ⟨_, hg, eval_pointwise f sh tv.data (hv m hm tv hfm) e hv dat hd⟩

/-- **C06 (an eval assignment creates variables equal to evaluating the expression on the file's arrays).** For a file
with distinct variable names and an expression over variables of one shape `sh` (none of them called `np`, `self` or
`outf`), `f.eval('t = expr', inplace=True)` succeeds only with a file whose variable `t` has shape `sh` and holds, at every
index, the cell-by-cell value of the expression on the file's variables. -/
theorem eval_creates (f g : File) (hn : NamesNodup f) (t : String) (e : Expr) (sh : List Nat)
    (hv : ∀ n ∈ e.vars, n ∉ evalReserved ∧ ∀ v, f.var? n = some v → hasShape sh v.data = true)
    (h : evalInto (evalEnv f) f t e = .ok g) :
    ∃ nv, g.var? t = some nv ∧ hasShape sh nv.data = true ∧
      ∀ idx, InShape idx sh → some (Arr.get nv.data idx) = (cellSpec f idx e).map some :=
  evalInto_creates _ f g (eval_sound f hn) t e sh (fun n hm v hv' => eval_resolves f hn n v hv' (hv n hm).1)
    (fun n hm => (hv n hm).2) h

/-- the same for `pncexpr`, whatever helper functions and physical constants share names with the file's variables -/
theorem pncexpr_creates (f g : File) (helpers consts : List String) (hn : NamesNodup f) (t : String) (e : Expr)
    (sh : List Nat)
    (hv : ∀ n ∈ e.vars, n ∉ pncexprReserved ∧ ∀ v, f.var? n = some v → hasShape sh v.data = true)
    (h : evalInto (pncexprEnv f helpers consts) f t e = .ok g) :
    ∃ nv, g.var? t = some nv ∧ hasShape sh nv.data = true ∧
      ∀ idx, InShape idx sh → some (Arr.get nv.data idx) = (cellSpec f idx e).map some :=
  evalInto_creates _ f g (pncexpr_sound f helpers consts hn) t e sh
    (fun n hm v hv' => pncexpr_resolves f helpers consts hn n v hv' (hv n hm).1) (fun n hm => (hv n hm).2) h

/-- non-vacuity: `pncexpr('N = V * g', f)` on a file that has a variable `g`, with scipy's `g` in the namespace -/
example :
    let f : File := ⟨[⟨"x", 2, false⟩], [⟨"g", ["x"], .node [.leaf (some 1), .leaf (some 2)], [], false, false⟩,
      ⟨"V", ["x"], .node [.leaf (some 10), .leaf (some 20)], [], false, false⟩], []⟩
    (match evalInto (pncexprEnv f [] ["g"]) f "N" (.bin .mul (.var "V") (.var "g")) with
      | .ok r => (r.var? "N").map (fun v => (Arr.get v.data [0], Arr.get v.data [1]))
      | .error _ => none) = some (some (some 10), some (some 40)) := by
  decide +kernel

end Props.C06
