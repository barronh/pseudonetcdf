import PncProofs.FiberLemmas
import PncModel.File
import Mathlib.Data.Rat.Init

/-!
# C03 — apply-along-dimension equals the function applied to every fiber: property theorems
-/
namespace Props.C03
open Arr PFile

/-- **C03 (element-wise).** For any array of any rank, any axis `k` and any 1-D function `g` whose
output length depends only on the input length: the element at `idx` of `mapFibers g sh k a`
(what `applyAlongDimensions` computes for one named dimension, axis retained) is element `idx[k]`
of `g` applied to the 1-D fiber of `a` along axis `k` through `idx`. -/
theorem apply_fiberwise {α} (g : List α → List α) (glen : Nat → Nat) (hu : Uniform g glen)
    (sh : List Nat) (k : Nat) (a : Arr α) (idx : List Nat) (h : hasShape sh a = true)
    (hp : AllPos sh) (hk : k < sh.length) (hv : Valid idx (sh.set k (glen (sh.getD k 0)))) :
    get (mapFibers g sh k a) idx = (g (fiber a k (sh.getD k 0) idx))[idx.getD k 0]? :=
  mapFibers_get g glen hu sh k a idx h hp hk hv

/-- output length of each modelled function -/
def fnLen : Fn → Nat → Nat
  | .mean, _ | .sum, _ | .min, _ | .max, _ | .var, _ => 1
  | .diff, n | .conv2, n => n - 1
  | .sub2, n => (n + 1) / 2
  | .rev, n | .cumsum, n => n

theorem cumsum_length (acc : ℚ) (l : List Cell) : (Fn.apply.go acc l).length = l.length := by
  induction l generalizing acc with
  | nil => rfl
  | cons c l ih => cases c <;> simp [Fn.apply.go, ih]

/-- every modelled function is uniform, so `apply_fiberwise` applies to all of them (the named
reducers produce length 1: the axis is retained with length one) -/
theorem fn_uniform (fn : Fn) : Uniform fn.apply (fnLen fn) := by
  intro l
  cases fn
  case diff | conv2 =>
    simp only [Fn.apply, fnLen, List.length_zipWith, List.length_drop]
    exact Nat.min_eq_right (Nat.sub_le _ _)
  case sub2 =>
    -- every even position below the length is there
    simp only [Fn.apply, fnLen]
    rw [List.filterMap_length_eq_length.mpr fun i hi => ?_, List.length_range]
    rw [List.getElem?_eq_getElem (by have := List.mem_range.mp hi; omega)]
    rfl
  case cumsum => exact cumsum_length 0 l
  case rev => exact List.length_reverse
  -- the named reducers answer one cell
  all_goals rfl

/-- **C03 (shape).** Applying any modelled function along axis `k` of an array of shape `sh` (no empty axis) gives an
array whose axis `k` has the function's output length (1 for the named reducers: the axis is kept) and whose
other axes are unchanged — for every rank and every axis. -/
theorem apply_shape (fn : Fn) (sh : List Nat) (k : Nat) (a : Arr Cell) (h : hasShape sh a = true)
    (hp : AllPos sh) (hk : k < sh.length) :
    hasShape (sh.set k (fnLen fn (sh.getD k 0))) (mapFibers fn.apply sh k a) = true :=
  mapFibers_shape fn.apply (fnLen fn) (fn_uniform fn) sh k a h hp hk

/-- **masked cells are excluded** by the reducers as numpy.ma does: sum and mean run over the
unmasked cells only; an all-masked fiber gives a masked result -/
theorem reducers_exclude_masked (l : List Cell) :
    (unmasked l ≠ [] → Fn.sum.apply l = [some (rsum (unmasked l))] ∧
       Fn.mean.apply l = [some (rsum (unmasked l) / ((unmasked l).length : ℕ))]) ∧
    (unmasked l = [] → l ≠ [] → Fn.sum.apply l = [none] ∧ Fn.mean.apply l = [none] ∧
       Fn.min.apply l = [none] ∧ Fn.max.apply l = [none]) := by
  constructor
  · intro h
    simp [Fn.apply, h]
  · intro h hl
    simp [Fn.apply, h, hl]

/-- **variables lacking the named dimensions are unchanged** -/
theorem untouched (f : File) (fns : List (String × Fn)) (v : Var)
    (h : ∀ k ∈ v.dims, fnOf fns k = none) : (applyVar f fns v).data = v.data := by
  unfold applyVar
  have hany : (v.dims.any fun k => (fnOf fns k).isSome) = false := by
    rw [List.any_eq_false]
    intro k hk
    simp [h k hk]
  simp only [hany, Bool.false_eq_true, and_false, if_false]
  -- no axis has a function, so every step leaves the accumulator as it is
  rw [List.foldl_fixed_of_mem fun ax hax => ?_]
  have hlt : ax < v.dims.length := List.mem_range.mp (List.mem_reverse.mp hax)
  rw [applyAxis, h _ (List.getD_mem "" hlt)]

/-- non-vacuity: a masked 2×3 array reduced along axis 1 and along axis 0 -/
example :
    let a : Arr Cell := .node [.node [.leaf (some 1), .leaf none, .leaf (some 3)],
                               .node [.leaf none, .leaf none, .leaf (some 7)]]
    flatten (mapFibers Fn.mean.apply [2, 3] 1 a) = [some 2, some 7] ∧
    flatten (mapFibers Fn.sum.apply [2, 3] 0 a) = [some 1, none, some 10] := by
  decide +kernel

end Props.C03
