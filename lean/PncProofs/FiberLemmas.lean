import PncProofs.ArrLemmas

/-!
What `mapFibers` (apply a 1-D function along an axis) computes, cell by cell and as a shape; both rest on
`pointwise_spec`, which says the same of the list of sub-arrays at the axis.
-/
namespace Arr
variable {α : Type}

def cellsAt (xs : List (Arr α)) (idx : List Nat) : List α := xs.filterMap (fun x => get x idx)

/-- the output length of `g` depends only on the input length -/
def Uniform (g : List α → List α) (glen : Nat → Nat) : Prop := ∀ l, (g l).length = glen l.length

theorem leaves_eq_cellsAt (xs : List (Arr α)) : leaves xs = cellsAt xs [] := by
  unfold leaves cellsAt
  congr 1
  funext x
  cases x <;> rfl

theorem cellsAt_column (xs : List (Arr α)) (j : Nat) (idx : List Nat) :
    cellsAt (column j xs) idx = cellsAt xs (j :: idx) := by
  unfold cellsAt column
  rw [List.filterMap_filterMap]
  congr 1
  funext x
  cases x with
  | leaf c => rfl
  | node ys => exact (get_node ys j idx).symm

theorem cellsAt_length {sh : List Nat} {xs : List (Arr α)} {idx : List Nat} (h : ∀ x ∈ xs, hasShape sh x = true)
    (hv : Valid idx sh) : (cellsAt xs idx).length = xs.length :=
  List.filterMap_length_eq_length.mpr fun x hx => by
    obtain ⟨c, hc⟩ := get_some_of_valid sh x idx (h x hx) hv
    rw [hc]
    rfl

theorem column_length {sh : List Nat} {m j : Nat} {xs : List (Arr α)} (hj : j < m)
    (h : ∀ x ∈ xs, hasShape (m :: sh) x = true) : (column j xs).length = xs.length :=
  List.filterMap_length_eq_length.mpr fun x hx => by
    obtain ⟨ys, rfl, rfl, _⟩ := hasShape_cons.mp (h x hx)
    simp [hj]

theorem column_shape {sh : List Nat} {m j : Nat} {xs : List (Arr α)} (h : ∀ x ∈ xs, hasShape (m :: sh) x = true) :
    ∀ y ∈ column j xs, hasShape sh y = true := by
  intro y hy
  obtain ⟨x, hx, hxy⟩ := List.mem_filterMap.mp hy
  obtain ⟨ys, rfl, _, hys⟩ := hasShape_cons.mp (h x hx)
  exact hys y (List.mem_of_getElem? hxy)

/-- `AllPos sh`: `pointwise` reads the number of its results off the first row of its table, which an empty axis does
not have -/
theorem pointwise_spec (g : List α → List α) (glen : Nat → Nat) (hu : Uniform g glen) :
    ∀ (sh : List Nat) (xs : List (Arr α)), (∀ x ∈ xs, hasShape sh x = true) → AllPos sh →
      (pointwise g sh xs).length = glen xs.length ∧
      ∀ (i : Nat) (y : Arr α), (pointwise g sh xs)[i]? = some y →
        hasShape sh y = true ∧ ∀ idx, Valid idx sh → get y idx = (g (cellsAt xs idx))[i]? := by
  intro sh
  induction sh with
  | nil =>
    intro xs h _
    rw [pointwise, leaves_eq_cellsAt, List.length_map, hu, cellsAt_length (idx := []) h trivial]
    refine ⟨rfl, fun i y hy => ?_⟩
    rw [List.getElem?_map] at hy
    obtain ⟨c, hc, rfl⟩ := Option.map_eq_some_iff.mp hy
    refine ⟨rfl, fun idx hv => ?_⟩
    rw [valid_nil.mp hv, hc]
    rfl
  | cons m r ih =>
    intro xs h hp
    obtain ⟨hm, hp⟩ := allPos_cons.mp hp
    replace ih := fun j => ih (column j xs) (column_shape h) hp
    have hlen : ∀ j < m, (pointwise g r (column j xs)).length = glen xs.length := fun j hj => by
      rw [(ih j).1, column_length hj h]
    have hL : (((List.range m).map fun j => pointwise g r (column j xs)).headD []).length = glen xs.length := by
      obtain ⟨m, rfl⟩ := Nat.exists_eq_succ_of_ne_zero (Nat.ne_of_gt hm)
      rw [List.range_succ_eq_map, List.map_cons, List.headD_cons, hlen 0 hm]
    rw [pointwise, List.length_map, List.length_range, hL]
    refine ⟨rfl, fun i y hy => ?_⟩
    obtain ⟨hi, _⟩ := List.getElem?_eq_some_iff.mp hy
    rw [List.length_map, List.length_range] at hi
    rw [List.getElem?_map, List.getElem?_range hi, Option.map_some] at hy
    obtain rfl := Option.some.inj hy
    -- row `j` of the table has an entry at `i`, so the `i`-th column of the table drops nothing
    have hrows := List.map_some_filterMap (l := (List.range m).map fun j => pointwise g r (column j xs))
      (f := (·[i]?)) fun row hrow => by
        obtain ⟨j, hj, rfl⟩ := List.mem_map.mp hrow
        rw [List.getElem?_eq_getElem (by rw [hlen j (List.mem_range.mp hj)]; exact hi)]
        rfl
    refine ⟨hasShape_node.mpr ⟨?_, fun z hz => ?_⟩, fun idx hv => ?_⟩
    · rw [List.length_of_map_eq_map_some hrows, List.length_map, List.length_range]
    · obtain ⟨row, hrow, hz⟩ := List.mem_of_map_eq_map_some hrows hz
      obtain ⟨j, _, rfl⟩ := List.mem_map.mp hrow
      exact ((ih j).2 i z hz).1
    · obtain ⟨j, idx, rfl, hj, hv⟩ := valid_cons.mp hv
      rw [get_node, List.getElem?_of_map_eq_map_some hrows, List.getElem?_map, List.getElem?_range hj,
        Option.map_some, Option.bind_some, ← cellsAt_column]
      obtain ⟨z, hz⟩ : ∃ z, (pointwise g r (column j xs))[i]? = some z :=
        ⟨_, List.getElem?_eq_getElem (by rw [hlen j hj]; exact hi)⟩
      rw [hz, Option.bind_some]
      exact ((ih j).2 i z hz).2 idx hv

/-- the 1-D fiber of `a` along axis `k` (length `n`) through multi-index `idx` -/
def fiber (a : Arr α) (k n : Nat) (idx : List Nat) : List α :=
  (List.range n).filterMap (fun t => get a (idx.set k t))

theorem fiber_node_zero (xs : List (Arr α)) (i : Nat) (idx : List Nat) :
    fiber (node xs) 0 xs.length (i :: idx) = cellsAt xs idx := by
  unfold fiber cellsAt
  simp only [List.set_cons_zero, get_node]
  exact List.range_filterMap_getElem? xs (fun x => get x idx)

theorem fiber_node_succ (xs : List (Arr α)) (k n : Nat) {i : Nat} (idx : List Nat) (hi : i < xs.length) :
    fiber (node xs) (k + 1) n (i :: idx) = fiber xs[i] k n idx := by
  unfold fiber
  simp only [List.set_cons_succ, get_node, List.getElem?_eq_getElem hi, Option.bind_some]

theorem mapFibers_get (g : List α → List α) (glen : Nat → Nat) (hu : Uniform g glen) :
    ∀ (sh : List Nat) (k : Nat) (a : Arr α) (idx : List Nat),
      hasShape sh a = true → AllPos sh → k < sh.length →
      Valid idx (sh.set k (glen (sh.getD k 0))) →
      get (mapFibers g sh k a) idx = (g (fiber a k (sh.getD k 0) idx))[idx.getD k 0]? := by
  intro sh
  induction sh with
  | nil => exact fun k _ _ _ _ hk => absurd hk (Nat.not_lt_zero k)
  | cons n rest ih =>
    intro k a idx h hp hk hv
    obtain ⟨xs, rfl, rfl, hx⟩ := hasShape_cons.mp h
    cases k with
    | zero =>
      obtain ⟨i, idx, rfl, hi, hv⟩ := valid_cons.mp hv
      obtain ⟨hlen, hcell⟩ := pointwise_spec g glen hu rest xs hx (allPos_cons.mp hp).2
      obtain ⟨y, hy⟩ : ∃ y, (pointwise g rest xs)[i]? = some y :=
        ⟨_, List.getElem?_eq_getElem (by rw [hlen]; exact hi)⟩
      rw [mapFibers, get_node, hy, Option.bind_some, (hcell i y hy).2 idx hv, List.getD_cons_zero, List.getD_cons_zero,
        fiber_node_zero]
    | succ k =>
      obtain ⟨i, idx, rfl, hi, hv⟩ := valid_cons.mp hv
      rw [mapFibers, get_node, List.getElem?_map, List.getElem?_eq_getElem hi, Option.map_some, Option.bind_some,
        ih k xs[i] idx (hx _ (List.getElem_mem hi)) (allPos_cons.mp hp).2 (Nat.lt_of_succ_lt_succ hk) hv,
        List.getD_cons_succ, List.getD_cons_succ, fiber_node_succ xs k _ idx hi]

theorem mapFibers_shape (g : List α → List α) (glen : Nat → Nat) (hu : Uniform g glen) :
    ∀ (sh : List Nat) (k : Nat) (a : Arr α), hasShape sh a = true → AllPos sh → k < sh.length →
      hasShape (sh.set k (glen (sh.getD k 0))) (mapFibers g sh k a) = true := by
  intro sh
  induction sh with
  | nil => exact fun k _ _ _ hk => absurd hk (Nat.not_lt_zero k)
  | cons n rest ih =>
    intro k a h hp hk
    obtain ⟨xs, rfl, rfl, hx⟩ := hasShape_cons.mp h
    cases k with
    | zero =>
      obtain ⟨hlen, hcell⟩ := pointwise_spec g glen hu rest xs hx (allPos_cons.mp hp).2
      refine hasShape_node.mpr ⟨hlen, fun y hy => ?_⟩
      obtain ⟨i, hi⟩ := List.getElem?_of_mem hy
      exact (hcell i y hi).1
    | succ k =>
      refine hasShape_node.mpr ⟨List.length_map _, fun y hy => ?_⟩
      obtain ⟨x, hxm, rfl⟩ := List.mem_map.mp hy
      exact ih k x (hx x hxm) (allPos_cons.mp hp).2 (Nat.lt_of_succ_lt_succ hk)

end Arr
