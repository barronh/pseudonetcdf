import Batteries.Data.List.Lemmas

/-!
List facts that several models need and the library does not have; after `namespace List`, index bounds for rows of one
length, single steps of `Option` and `Except` do-blocks and loops that count fuel down.
-/
namespace List

/-! ### results that are all defined

`l.map f = out.map some` says that `f` is defined on every element of `l` and `out` lists the values in order; a
successful `mapM` and a `filterMap` that drops nothing both give it. For `Except` the same is `l.map f = out.map .ok`. -/
section defined
variable {β γ : Type _} {f : β → Option γ} {l : List β} {out : List γ}

theorem mapM_option_eq_some : ∀ {l : List β} {out : List γ}, l.mapM f = some out ↔ l.map f = out.map some
  | [], out => by cases out <;> simp
  | x :: l, [] => by simp [List.mapM_cons, Option.bind_eq_some_iff]
  | x :: l, c :: cs => by
    simp [List.mapM_cons, Option.bind_eq_some_iff, ← mapM_option_eq_some (l := l) (out := cs)]

theorem mapM_except_eq_ok {ε} {f : β → Except ε γ} : ∀ {l : List β} {out : List γ},
    l.mapM f = .ok out ↔ l.map f = out.map .ok
  | [], out => by cases out <;> simp [pure, Except.pure]
  | x :: l, [] => by
    rw [mapM_cons]
    cases f x with
    | error e => simp [bind, Except.bind]
    | ok b =>
      cases l.mapM f with
      | error e => simp [bind, Except.bind]
      | ok bs => simp [bind, Except.bind, pure, Except.pure]
  | x :: l, c :: cs => by
    rw [mapM_cons, map_cons, map_cons, cons.injEq, ← mapM_except_eq_ok (l := l) (out := cs)]
    cases f x with
    | error e => simp [bind, Except.bind]
    | ok b =>
      cases l.mapM f with
      | error e => simp [bind, Except.bind]
      | ok bs => simp [bind, Except.bind, pure, Except.pure]

theorem mapM_some (g : β → γ) (h : ∀ x ∈ l, f x = some (g x)) :
    l.mapM f = some (l.map g) := by
  rw [mapM_option_eq_some, map_map]
  exact map_congr_left h

theorem mapM_ok {ε} {f : β → Except ε γ} (g : β → γ) (h : ∀ x ∈ l, f x = .ok (g x)) :
    l.mapM f = .ok (l.map g) := by
  rw [mapM_except_eq_ok, map_map]
  exact map_congr_left h

theorem mem_of_mapM_ok {ε} {f : β → Except ε γ} (h : l.mapM f = .ok out) {y : γ} (hy : y ∈ out) :
    ∃ x ∈ l, f x = .ok y :=
  mem_map.mp (mapM_except_eq_ok.mp h ▸ mem_map_of_mem hy)

theorem map_eq_map_of_mapM_ok {ε δ} {f : β → Except ε γ} (p : γ → δ) (q : β → δ) : ∀ {l : List β} {out : List γ},
    l.mapM f = .ok out → (∀ x ∈ l, ∀ y, f x = .ok y → p y = q x) → out.map p = l.map q
  | [], out, h, _ => by
    obtain rfl : [] = out := by simpa [pure, Except.pure] using h
    rfl
  | x :: l, [], h, _ => by simpa using mapM_except_eq_ok.mp h
  | x :: l, y :: ys, h, hx => by
    have h' := mapM_except_eq_ok.mp h
    rw [map_cons, map_cons, cons.injEq] at h'
    rw [map_cons, map_cons, hx x mem_cons_self y h'.1,
      map_eq_map_of_mapM_ok p q (mapM_except_eq_ok.mpr h'.2) fun x' hx' => hx x' (mem_cons_of_mem _ hx')]

theorem map_some_filterMap (h : ∀ x ∈ l, (f x).isSome = true) : l.map f = (l.filterMap f).map some := by
  rw [map_filterMap_some_eq_filter_map_isSome, filter_eq_self.mpr]
  simpa using h

theorem filterMap_eq_map_getD (d : γ) (h : ∀ x ∈ l, (f x).isSome = true) :
    l.filterMap f = l.map fun x => (f x).getD d := by
  have := congrArg (map (·.getD d)) (map_some_filterMap h)
  simpa [Function.comp_def] using this.symm

theorem length_of_map_eq_map_some (h : l.map f = out.map some) : out.length = l.length := by
  simpa using (congrArg length h).symm

theorem getElem?_of_map_eq_map_some (h : l.map f = out.map some) (j : Nat) : out[j]? = (l[j]?).bind f := by
  have := congrArg (·[j]?) h
  simp only [getElem?_map] at this
  cases hl : l[j]? <;> cases ho : out[j]? <;> simp_all

theorem mem_of_map_eq_map_some (h : l.map f = out.map some) {y : γ} (hy : y ∈ out) : ∃ x ∈ l, f x = some y :=
  mem_map.mp (h ▸ mem_map_of_mem hy)

theorem exists_of_map_eq_map_some (h : l.map f = out.map some) {x : β} (hx : x ∈ l) : ∃ y, f x = some y := by
  obtain ⟨y, _, hy⟩ := mem_map.mp (h ▸ mem_map_of_mem (f := f) hx)
  exact ⟨y, hy.symm⟩

end defined

/-! ### an entry by position, and replaced -/

/-- `getElem_eq_getD` turned round; the bound is explicit so that it can be given when rewriting from right to left -/
theorem getD_of_lt {α} (l : List α) (d : α) {i : Nat} (h : i < l.length) : l.getD i d = l[i] :=
  (getElem_eq_getD d).symm

theorem getD_mem {α} {l : List α} {k : Nat} (d : α) (hk : k < l.length) : l.getD k d ∈ l := by
  rw [getD_of_lt l d hk]
  exact getElem_mem hk

theorem getD_take {α} {l : List α} {m i : Nat} {d : α} (h : i < m) : (l.take m).getD i d = l.getD i d := by
  simp only [getD_eq_getElem?_getD, getElem?_take, h, if_true]

theorem getD_set_self {α} (l : List α) (k : Nat) (a d : α) (hk : k < l.length) : (l.set k a).getD k d = a := by
  rw [getD_eq_getElem?_getD, getElem?_set_self hk]
  rfl

theorem getD_set_ne {α} (l : List α) {i j : Nat} (a d : α) (hij : i ≠ j) : (l.set j a).getD i d = l.getD i d := by
  rw [getD_eq_getElem?_getD, getD_eq_getElem?_getD, getElem?_set_ne fun e => hij e.symm]

theorem set_getD_self {α} (l : List α) (k : Nat) (d : α) : l.set k (l.getD k d) = l := by
  induction l generalizing k with
  | nil => rfl
  | cons x l ih => cases k <;> simp only [getD_cons_zero, getD_cons_succ, set_cons_zero, set_cons_succ, ih]

theorem range_map_eq {α} {n : Nat} {f : Nat → α} {l : List α} (hl : l.length = n)
    (h : ∀ i (hi : i < l.length), f i = l[i]) : (range n).map f = l := by
  subst hl
  refine ext_getElem (by rw [length_map, length_range]) fun i _ hi => ?_
  rw [getElem_map, getElem_range]
  exact h i hi

theorem range_map_getD {α} (l : List α) (d : α) : (range l.length).map (fun i => l[i]?.getD d) = l :=
  range_map_eq rfl fun i hi => by rw [getElem?_eq_getElem hi, Option.getD_some]

theorem range_flatMap_getElem? {α β} (h : Option α → List β) (l : List α) :
    (range l.length).flatMap (fun i => h (l[i]?)) = l.flatMap (fun x => h (some x)) := by
  induction l with
  | nil => simp
  | cons a rest ih =>
    rw [length_cons, range_succ_eq_map, flatMap_cons, flatMap_map, flatMap_cons]
    simp only [getElem?_cons_zero, getElem?_cons_succ]
    rw [ih]

theorem range_filterMap_getElem? {α β} (l : List α) (f : α → Option β) :
    (range l.length).filterMap (fun i => (l[i]?).bind f) = l.filterMap f := by
  induction l with
  | nil => rfl
  | cons x l ih =>
    rw [length_cons, range_succ_eq_map, filterMap_cons]
    simp only [getElem?_cons_zero, Option.bind_some, filterMap_map, Function.comp_def, getElem?_cons_succ,
      filterMap_cons]
    rw [ih]

theorem split_of_getElem? {α} {l : List α} {i : Nat} {a : α} (h : l[i]? = some a) :
    ∃ A B, l = A ++ a :: B ∧ A.length = i := by
  obtain ⟨hi, rfl⟩ := getElem?_eq_some_iff.mp h
  exact ⟨l.take i, l.drop (i + 1), by rw [← drop_eq_getElem_cons hi, take_append_drop],
    length_take_of_le (Nat.le_of_lt hi)⟩

/-! ### lookup under distinct keys -/

theorem find?_of_mem_nodup {α κ} [BEq κ] [LawfulBEq κ] (key : α → κ) : ∀ (l : List α), (l.map key).Nodup → ∀ x ∈ l,
    l.find? (fun y => key y == key x) = some x
  | [], _, x, hx => by cases hx
  | y :: l, hn, x, hx => by
    rw [map_cons, nodup_cons] at hn
    rcases mem_cons.mp hx with rfl | hx'
    · simp [find?]
    · have hne : (key y == key x) = false := by
        rw [beq_eq_false_iff_ne]
        exact fun h => hn.1 (h ▸ mem_map_of_mem hx')
      rw [find?, hne]
      exact find?_of_mem_nodup key l hn.2 x hx'

theorem nodup_map_concat {α κ} (key : α → κ) {l : List α} {a : α} (h : (l.map key).Nodup)
    (ha : ∀ x ∈ l, key x ≠ key a) : ((l ++ [a]).map key).Nodup := by
  rw [map_append, map_singleton, nodup_append]
  refine ⟨h, pairwise_singleton _ _, fun x hx y hy => ?_⟩
  obtain ⟨z, hz, rfl⟩ := mem_map.mp hx
  rw [mem_singleton.mp hy]
  exact ha z hz

theorem find?_filter_keep {α} {p q : α → Bool} {l : List α} {a : α} (h : l.find? p = some a) (hq : q a = true) :
    (l.filter q).find? p = some a := by
  rw [find?_filter]
  obtain ⟨hp, as, bs, rfl, has⟩ := find?_eq_some_iff_append.mp h
  exact find?_eq_some_iff_append.mpr ⟨by simp [hp, hq], as, bs, rfl, fun x hx => by simp [has x hx]⟩

/-! ### a value that occurs once -/
section once
variable {α : Type _} [BEq α] [LawfulBEq α]

theorem mem_iff_filter_pos (a : α) (l : List α) : a ∈ l ↔ 0 < (l.filter (· == a)).length := by
  rw [← countP_eq_length_filter]
  exact count_pos_iff.symm

theorem idxOf_map_getD {β} (f : α → β) (a : α) (l : List α) (d : β) (h : a ∈ l) :
    l.idxOf a < (l.map f).length ∧ (l.map f).getD (l.idxOf a) d = f a := by
  have hk : l.idxOf a < l.length := idxOf_lt_length_of_mem h
  refine ⟨by simpa using hk, ?_⟩
  rw [getD_eq_getElem?_getD, getElem?_map, getElem?_eq_getElem hk]
  simp [getElem_idxOf]

theorem map_set_idxOf {β} (a : α) (f1 f2 : α → β) : ∀ (l : List α),
    (∀ k ∈ l, k ≠ a → f1 k = f2 k) → (l.filter (· == a)).length = 1 →
    l.map f1 = (l.map f2).set (l.idxOf a) (f1 a)
  | [], _, hone => by cases hone
  | x :: l, hag, hone => by
    by_cases hx : x = a
    · subst hx
      have hrest : ∀ k ∈ l, k ≠ x := by
        rintro k hk rfl
        have := (mem_iff_filter_pos k l).mp hk
        rw [filter_cons, beq_self_eq_true, if_pos rfl, length_cons] at hone
        omega
      rw [idxOf_cons_self, map_cons, map_cons, set_cons_zero,
        map_congr_left fun k hk => hag k (mem_cons_of_mem _ hk) (hrest k hk)]
    · have hbeq : (x == a) = false := beq_false_of_ne hx
      rw [filter_cons, hbeq, if_neg Bool.false_ne_true] at hone
      rw [idxOf_cons, hbeq, cond_false, map_cons, map_cons, set_cons_succ, hag x mem_cons_self hx,
        ← map_set_idxOf a f1 f2 l (fun k hk => hag k (mem_cons_of_mem _ hk)) hone]

theorem not_contains_eq_true {a : α} {l : List α} : (!l.contains a) = true ↔ a ∉ l := by
  rw [Bool.not_eq_true', ← Bool.not_eq_true, contains_iff_mem]

theorem mem_of_filter_length_eq_one {a : α} {l : List α}
    (h : (l.filter (· == a)).length = 1) : a ∈ l :=
  (mem_iff_filter_pos a l).mpr (h ▸ Nat.zero_lt_one)

theorem filter_length_eq_one_of_mem {a : α} {l : List α}
    (hle : (l.filter (· == a)).length ≤ 1) (hm : a ∈ l) : (l.filter (· == a)).length = 1 :=
  Nat.le_antisymm hle ((mem_iff_filter_pos a l).mp hm)

end once

/-! ### a segment at a position -/

theorem getElem?_of_drop {α} {ls T : List α} {k : Nat} (h : ls.drop k = T) (i : Nat) : ls[k + i]? = T[i]? := by
  rw [← h, getElem?_drop]

theorem drop_of_drop {α} {ls T : List α} {k : Nat} (h : ls.drop k = T) (i : Nat) : ls.drop (k + i) = T.drop i := by
  rw [← h, drop_drop]

theorem take_drop_take {α} {l : List α} {m a b : Nat} (h : a + b ≤ m) :
    ((l.take m).drop a).take b = (l.drop a).take b := by
  rw [drop_take, take_take, Nat.min_eq_left (by omega)]

theorem getD_of_slice {α} {w p : List α} {a n : Nat} (h : (w.drop a).take n = p) {i : Nat} (hi : i < n) (d : α) :
    w.getD (a + i) d = p.getD i d := by
  rw [← h, getD_take hi, getD_eq_getElem?_getD, getD_eq_getElem?_getD, getElem?_drop]

/-- `g` reads one entry (or its absence) and `mk` writes one: where the entries from position `k` on are `xs.map mk`,
reading `xs.length` of them gives `xs` back -/
theorem mapM_block {α β} (g : Option α → Option β) (mk : β → α) (hg : ∀ x, g (some (mk x)) = some x)
    {ls : List α} {k : Nat} {xs : List β} {post : List α} (h : ls.drop k = xs.map mk ++ post) :
    (range xs.length).mapM (fun i => g ls[k + i]?) = some xs := by
  simp only [getElem?_of_drop h]
  clear h
  induction xs with
  | nil => rfl
  | cons x xs ih =>
    rw [length_cons, range_succ_eq_map, mapM_cons, mapM_map]
    simp only [Function.comp_def, map_cons, cons_append, getElem?_cons_succ, getElem?_cons_zero, hg, ih]
    rfl

theorem takeWhile_stop {α} (p : α → Bool) (y : α) (r : List α) (hy : p y = false) (l : List α)
    (h : ∀ x ∈ l, p x = true) : (l ++ y :: r).takeWhile p = l := by
  rw [takeWhile_append_of_pos h, takeWhile_cons_of_neg (by simp [hy]), append_nil]

theorem flatMap_congr_left {α β} {l : List α} {f g : α → List β} (h : ∀ a ∈ l, f a = g a) :
    l.flatMap f = l.flatMap g := by
  rw [flatMap_def, flatMap_def, map_congr_left h]

theorem foldl_fixed_of_mem {α β} {f : β → α → β} {b : β} {l : List α} (h : ∀ a ∈ l, f b a = b) :
    l.foldl f b = b := by
  induction l with
  | nil => rfl
  | cons a l ih => rw [foldl_cons, h a mem_cons_self, ih fun x hx => h x (mem_cons_of_mem _ hx)]

/-! ### blocks of one length, laid end to end -/
section uniform
variable {α : Type _} {n : Nat} {ps : List (List α)}

theorem length_flatten_uniform (h : ∀ p ∈ ps, p.length = n) : ps.flatten.length = ps.length * n := by
  induction ps with
  | nil => simp
  | cons a as ih =>
    rw [flatten_cons, length_append, h a mem_cons_self, ih fun p hp => h p (mem_cons_of_mem _ hp),
      length_cons, Nat.succ_mul, Nat.add_comm]

theorem length_flatMap_uniform {β} {l : List β} {f : β → List α} (h : ∀ a ∈ l, (f a).length = n) :
    (l.flatMap f).length = l.length * n := by
  rw [flatMap_def, length_flatten_uniform (ps := l.map f) (by simpa using h), length_map]

theorem take_flatten_uniform (h : ∀ p ∈ ps, p.length = n) (q : Nat) :
    ps.flatten.take (q * n) = (ps.take q).flatten := by
  induction ps generalizing q with
  | nil => simp
  | cons a as ih =>
    cases q with
    | zero => simp
    | succ q =>
      rw [flatten_cons, take_succ_cons, flatten_cons, Nat.succ_mul, Nat.add_comm, ← h a mem_cons_self,
        take_length_add_append, h a mem_cons_self, ih fun p hp => h p (mem_cons_of_mem _ hp)]

theorem drop_flatten_uniform (h : ∀ p ∈ ps, p.length = n) (q : Nat) :
    ps.flatten.drop (q * n) = (ps.drop q).flatten := by
  induction ps generalizing q with
  | nil => simp
  | cons a as ih =>
    cases q with
    | zero => simp
    | succ q =>
      rw [flatten_cons, drop_succ_cons, Nat.succ_mul, Nat.add_comm, ← h a mem_cons_self,
        drop_length_add_append, h a mem_cons_self, ih fun p hp => h p (mem_cons_of_mem _ hp)]

theorem slice_flatten_uniform (h : ∀ p ∈ ps, p.length = n) {t : Nat} (ht : t < ps.length) {a b : Nat}
    (hab : a + b ≤ n) : (ps.flatten.drop (t * n + a)).take b = (ps[t].drop a).take b := by
  have hlen : ps[t].length = n := h _ (getElem_mem ht)
  have hc : a + b ≤ (ps[t].drop a).length + a := by
    rw [length_drop, hlen]
    omega
  rw [← drop_drop, drop_flatten_uniform h, drop_eq_getElem_cons ht, flatten_cons,
    drop_append_of_le_length (by omega), take_append_of_le_length (by omega)]

theorem chunk_flatten_uniform (h : ∀ p ∈ ps, p.length = n) {t : Nat} (ht : t < ps.length) :
    (ps.flatten.drop (t * n)).take n = ps[t] := by
  have := slice_flatten_uniform h ht (a := 0) (b := n) (by omega)
  rwa [Nat.add_zero, drop_zero, take_of_length_le (l := ps[t]) (Nat.le_of_eq (h _ (getElem_mem ht)))] at this

theorem getElem?_flatten_uniform (h : ∀ p ∈ ps, p.length = n) (i j : Nat) (hj : j < n) :
    ps.flatten[i * n + j]? = (ps[i]?).bind (·[j]?) := by
  rw [← getElem?_drop, drop_flatten_uniform h]
  cases hd : ps.drop i with
  | nil =>
    rw [getElem?_eq_none (drop_eq_nil_iff.mp hd)]
    rfl
  | cons a as =>
    have hi : i < ps.length := by
      refine Nat.lt_of_not_le fun hle => ?_
      rw [drop_eq_nil_of_le hle] at hd
      cases hd
    rw [drop_eq_getElem_cons hi] at hd
    injection hd with ha _
    subst ha
    rw [flatten_cons, getElem?_append_left ((h _ (getElem_mem hi)).symm ▸ hj), getElem?_eq_getElem hi]
    rfl

end uniform

/-! ### a loop over blocks

The step loops of the memory-mapped readers have one shape: `loop k` reads `k` blocks of `W` items, each with `parse`,
and fails when one of them fails. -/

structure BlockLoop {α β : Type _} (loop : Nat → List α → Option (List β)) (parse : List α → Option β) (W : Nat) :
    Prop where
  zero : ∀ ws, loop 0 ws = some []
  succ : ∀ k ws, loop (k + 1) ws = (parse (ws.take W)).bind fun s => (loop k (ws.drop W)).map (s :: ·)

section loop
variable {α β : Type _} {loop : Nat → List α → Option (List β)} {parse : List α → Option β} {W : Nat}

theorem BlockLoop.flatten (L : BlockLoop loop parse W) (enc : β → List α) : ∀ (xs : List β) (more : List α),
    (∀ x ∈ xs, (enc x).length = W ∧ parse (enc x) = some x) →
    loop xs.length ((xs.map enc).flatten ++ more) = some xs
  | [], _, _ => L.zero _
  | x :: xs, more, h => by
    obtain ⟨hl, hp⟩ := h x mem_cons_self
    rw [length_cons, L.succ, map_cons, flatten_cons, append_assoc, ← hl, take_left, drop_left, hp,
      L.flatten enc xs more fun y hy => h y (mem_cons_of_mem _ hy)]
    rfl

theorem BlockLoop.take (L : BlockLoop loop parse W) : ∀ (k n : Nat) (ws : List α), k * W ≤ n →
    loop k (ws.take n) = loop k ws
  | 0, _, _, _ => by rw [L.zero, L.zero]
  | k + 1, n, ws, hk => by
    rw [Nat.succ_mul] at hk
    rw [L.succ, L.succ, take_take, Nat.min_eq_left (Nat.le_trans (Nat.le_add_left W _) hk), drop_take,
      L.take k (n - W) _ (Nat.le_sub_of_add_le hk)]

end loop

/-- the case split under every prefix result of a reader of whole blocks; what a format adds is why its reader accepts
the lengths `off + k * blk`, `k ≥ kmin`, only, and what the cuts are -/
theorem prefix_cases {α β : Type _} {read : List α → Option β} {ws : List α} {off blk kmin T : Nat}
    {cut : Nat → List α} {out : Nat → Option β} (hblk : 0 < blk) (hlen : ws.length = off + T * blk)
    (hcut : ∀ k, ws.take (off + k * blk) = cut k) (reads : ∀ k, kmin ≤ k → k ≤ T → read (cut k) = out k)
    (accepts : ∀ n ≤ ws.length, ∀ g, read (ws.take n) = some g → ∃ k, kmin ≤ k ∧ n = off + k * blk) (n : Nat) :
    read (ws.take n) = none ∨ ∃ k, kmin ≤ k ∧ k ≤ T ∧ ws.take n = cut k ∧ read (ws.take n) = out k := by
  rw [take_eq_take_min]
  rcases hr : read (ws.take (min n ws.length)) with _ | g
  · exact Or.inl rfl
  · obtain ⟨k, hk, hl⟩ := accepts _ (Nat.min_le_right _ _) g hr
    have hkT : k ≤ T := by
      have := Nat.min_le_right n ws.length
      rw [hl, hlen] at this
      exact Nat.le_of_mul_le_mul_right (Nat.le_of_add_le_add_left this) hblk
    exact Or.inr ⟨k, hk, hkT, by rw [hl, hcut], by rw [← hr, hl, hcut]; exact reads k hk hkT⟩

/-! ### a relation throughout a list -/

theorem forall₂_of_forall {β γ} {R : β → γ → Prop} : ∀ {xs : List β} {ys : List γ}, xs.length = ys.length →
    (∀ x ∈ xs, ∀ y ∈ ys, R x y) → Forall₂ R xs ys
  | [], [], _, _ => .nil
  | [], _ :: _, h, _ => by cases h
  | _ :: _, [], h, _ => by cases h
  | x :: xs, y :: ys, h, hr =>
    .cons (hr x mem_cons_self y mem_cons_self)
      (forall₂_of_forall (Nat.succ.inj h) fun x' hx y' hy => hr x' (mem_cons_of_mem _ hx) y' (mem_cons_of_mem _ hy))

theorem forall₂_right_mem {α β} {R : α → β → Prop} {l₁ : List α} {l₂ : List β}
    (h : Forall₂ R l₁ l₂) : ∀ b ∈ l₂, ∃ a ∈ l₁, R a b := by
  induction h with
  | nil => exact fun _ hb => absurd hb not_mem_nil
  | cons hab _ ih =>
    intro b hb
    rcases mem_cons.mp hb with rfl | hb
    · exact ⟨_, mem_cons_self, hab⟩
    · obtain ⟨a, ha, hr⟩ := ih b hb
      exact ⟨a, mem_cons_of_mem _ ha, hr⟩

/-- the shape of `Asc`, `Desc`, `DescW` of the rational models; as `Pairwise R` the library's lemmas apply to them -/
theorem pairwise_of_rec {α : Type _} {R : α → α → Prop} [Trans R R R] {P : List α → Prop}
    (h0 : P []) (h1 : ∀ a, P [a]) (h2 : ∀ a b l, P (a :: b :: l) ↔ R a b ∧ P (b :: l)) :
    ∀ l, P l ↔ l.Pairwise R
  | [] => iff_of_true h0 .nil
  | [a] => iff_of_true (h1 a) (pairwise_singleton R a)
  | a :: b :: l => by
    rw [h2, pairwise_of_rec h0 h1 h2 (b :: l), ← isChain_iff_pairwise, ← isChain_iff_pairwise, isChain_cons_cons]

end List

/-! ### positions in rows of one length -/

/-- row `t` of `n` rows of `W` ends inside them -/
theorem Nat.mul_add_le_mul {t n : Nat} (W : Nat) (h : t < n) : t * W + W ≤ n * W := by
  rw [← Nat.succ_mul]
  exact Nat.mul_le_mul_right W h

/-- entry `j` of row `i`, in rows of `n`, lies in the first `m` rows -/
theorem Nat.mul_add_lt {i j m n : Nat} (hi : i < m) (hj : j < n) : i * n + j < m * n :=
  Nat.lt_of_lt_of_le (Nat.add_lt_add_left hj _) (Nat.mul_add_le_mul n hi)

/-! ### steps of a do-block; a loop with fuel -/

theorem Option.bind_of_eq {α β} {x : Option α} {a : α} (h : x = some a) (f : α → Option β) : x >>= f = f a := by
  subst h
  rfl

theorem Except.ok_of_ite {ε α} {c : Prop} [Decidable c] {e : ε} {x : Except ε α} {v : α}
    (h : (if c then .error e else x) = .ok v) : ¬ c ∧ x = .ok v := by
  split at h
  · cases h
  · exact ⟨‹_›, h⟩

/-- `x i` is the state before round `i` and `res i` the result from there on; round `d` ends the loop when `e` rounds of
fuel are left, stated at `fuel + e` so that for a loop defined by recursion on `fuel + 1` the goal unfolds as it stands -/
theorem Nat.fuel_loop {σ β : Type _} {loop : Nat → σ → β} {x : Nat → σ} {res : Nat → β} {d e : Nat}
    (go : ∀ fuel i, i < d → loop fuel (x (i + 1)) = res (i + 1) → loop (fuel + 1) (x i) = res i)
    (stop : ∀ fuel, loop (fuel + e) (x d) = res d) (fuel : Nat) (hf : d + e ≤ fuel) : loop fuel (x 0) = res 0 := by
  suffices h : ∀ j i, i + j = d → ∀ fuel, j + e ≤ fuel → loop fuel (x i) = res i from h d 0 (Nat.zero_add d) fuel hf
  intro j
  induction j with
  | zero =>
    intro i hi fuel hf
    rw [show i = d by omega, ← Nat.sub_add_cancel (show e ≤ fuel by omega)]
    exact stop (fuel - e)
  | succ j ih =>
    intro i hi fuel hf
    obtain ⟨fuel, rfl⟩ : ∃ k, fuel = k + 1 := ⟨fuel - 1, by omega⟩
    exact go fuel i (by omega) (ih (i + 1) (by omega) fuel (by omega))

theorem Nat.fuel_range {σ : Type _} {loop : Nat → σ → Option (List σ)} {x : Nat → σ} {T e : Nat}
    (go : ∀ fuel i, i < T → loop (fuel + 1) (x i) = (loop fuel (x (i + 1))).map (x i :: ·))
    (stop : ∀ fuel, loop (fuel + e) (x T) = some []) (fuel : Nat) (hf : T + e ≤ fuel) :
    loop fuel (x 0) = some ((List.range T).map x) := by
  rw [List.range_eq_range']
  refine fuel_loop (loop := loop) (x := x) (res := fun i => some ((List.range' i (T - i)).map x)) (d := T) (e := e)
    ?_ ?_ fuel hf
  · intro fuel i hi ih
    rw [go fuel i hi, ih, show T - i = (T - (i + 1)) + 1 by omega, List.range'_succ]
    rfl
  · intro fuel
    rw [stop, Nat.sub_self]
    rfl
