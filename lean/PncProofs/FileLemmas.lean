import PncModel.File
import PncProofs.ListLemmas

/-!
# Lookups in a file

A structural operation changes the dimension list in four ways, alone or two in a row: not at all, new lengths under the
old names, dimensions dropped, dimensions put at the end.  `dim?_*` read a lookup in the new list off the old one;
`var?_replace_*` do so for the one way `eval` changes the variable list. At the end, `zipCellsL` as a `zipWith`.
-/

namespace Props.C01
open PFile

def DimsNodup (f : File) : Prop := (f.dims.map (·.name)).Nodup

end Props.C01

namespace PFile

/-- distinct variable names (a dictionary) -/
def NamesNodup (f : File) : Prop := (f.vars.map (·.name)).Nodup

theorem File.dim?_mem {f : File} {k : String} {d : Dim} (h : f.dim? k = some d) : d ∈ f.dims ∧ d.name = k := by
  unfold File.dim? at h
  have hk := List.find?_some h
  exact ⟨List.mem_of_find?_eq_some h, eq_of_beq hk⟩

theorem File.var?_mem {f : File} {k : String} {v : Var} (h : f.var? k = some v) : v ∈ f.vars ∧ v.name = k := by
  unfold File.var? at h
  have hk := List.find?_some h
  exact ⟨List.mem_of_find?_eq_some h, eq_of_beq hk⟩

theorem File.dim?_of_mem {f : File} (hn : Props.C01.DimsNodup f) {d : Dim} (hd : d ∈ f.dims) :
    f.dim? d.name = some d :=
  List.find?_of_mem_nodup (fun (x : Dim) => x.name) f.dims hn d hd

theorem File.var?_of_mem {f : File} (hn : NamesNodup f) {v : Var} (hv : v ∈ f.vars) :
    f.var? v.name = some v :=
  List.find?_of_mem_nodup (fun (x : Var) => x.name) f.vars hn v hv

theorem File.dim?_eq_none {f : File} {k : String} : f.dim? k = none ↔ k ∉ f.dims.map (·.name) := by
  unfold File.dim?
  rw [List.find?_eq_none, List.mem_map]
  constructor
  · rintro h ⟨d, hd, rfl⟩
    exact h d hd (beq_self_eq_true _)
  · exact fun h d hd hk => h ⟨d, hd, eq_of_beq hk⟩

theorem File.dimLen_of_dim? {f : File} {k : String} {d : Dim} (h : f.dim? k = some d) : f.dimLen k = d.len := by
  unfold File.dimLen
  rw [h]
  rfl

theorem File.dim?_congr {f g : File} (h : g.dims = f.dims) (k : String) : g.dim? k = f.dim? k := by
  unfold File.dim?
  rw [h]

theorem File.dim?_map_len {f g : File} {len : Dim → Nat}
    (h : g.dims = f.dims.map (fun d => { d with len := len d })) (k : String) :
    g.dim? k = (f.dim? k).map (fun d => { d with len := len d }) := by
  unfold File.dim?
  rw [h, List.find?_map]
  rfl

theorem File.dim?_append_old {f g : File} {e : List Dim} (h : g.dims = f.dims ++ e) {k : String} {d : Dim}
    (hd : f.dim? k = some d) : g.dim? k = some d := by
  unfold File.dim? at hd ⊢
  rw [h, List.find?_append, hd]
  rfl

theorem File.dim?_append_new {f g : File} {e : List Dim} (h : g.dims = f.dims ++ e) {k : String}
    (hk : f.dim? k = none) : g.dim? k = e.find? (·.name == k) := by
  unfold File.dim? at hk ⊢
  rw [h, List.find?_append, hk]
  rfl

theorem File.dim?_append_one {f g : File} {e : Dim} (h : g.dims = f.dims ++ [e]) (hk : f.dim? e.name = none) :
    g.dim? e.name = some e := by
  rw [File.dim?_append_new h hk, List.find?_cons, beq_self_eq_true]

theorem File.dim?_filter_keep {f g : File} {p : Dim → Bool} (h : g.dims = f.dims.filter p) {k : String} {d : Dim}
    (hd : f.dim? k = some d) (hp : p d = true) : g.dim? k = some d := by
  unfold File.dim? at hd ⊢
  rw [h]
  exact List.find?_filter_keep hd hp

theorem File.dim?_of_sublist {f g : File} (h : List.Sublist g.dims f.dims) (hn : Props.C01.DimsNodup f)
    {k : String} {d : Dim} (hd : g.dim? k = some d) : f.dim? k = some d := by
  obtain ⟨hm, hk⟩ := File.dim?_mem hd
  rw [← hk]
  exact File.dim?_of_mem hn (h.subset hm)

theorem File.var?_replace_last {f g : File} {t : String} {nv : Var}
    (h : g.vars = f.vars.filter (fun v => v.name != t) ++ [nv]) (hnv : nv.name = t) : g.var? t = some nv := by
  unfold File.var?
  rw [h, List.find?_append, List.find?_eq_none.mpr, Option.none_or, List.find?_cons, hnv, beq_self_eq_true]
  exact fun x hx hc => bne_iff_ne.mp (List.mem_filter.mp hx).2 (eq_of_beq hc)

theorem File.var?_replace_other {f g : File} {t n : String} {nv : Var}
    (h : g.vars = f.vars.filter (fun v => v.name != t) ++ [nv]) (hnv : nv.name = t) (hne : n ≠ t) : g.var? n = f.var? n := by
  unfold File.var?
  rw [h, List.find?_append, List.find?_cons_of_neg (hnv ▸ fun hc => hne (eq_of_beq hc).symm), List.find?_nil, Option.or_none]
  cases hf : f.vars.find? (·.name == n) with
  | none => exact List.find?_eq_none.mpr (fun x hx => List.find?_eq_none.mp hf x (List.mem_filter.mp hx).1)
  | some a =>
    have ha := List.find?_some hf
    exact List.find?_filter_keep hf (bne_iff_ne.mpr (eq_of_beq ha ▸ hne))

theorem zipCellsL_eq_zipWith (g : Cell → Cell → Cell) : ∀ (xs ys : List (Arr Cell)),
    zipCellsL g xs ys = List.zipWith (zipCells g) xs ys
  | [], _ => by simp [zipCellsL]
  | _ :: _, [] => by simp [zipCellsL]
  | x :: xs, y :: ys => by simp [zipCellsL, zipCellsL_eq_zipWith g xs ys]

end PFile
