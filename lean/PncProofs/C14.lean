import PncProofs.C13
import PncProofs.C09

/-!
# C14 — truncated binary files are never silently misread (memory-mapped readers of the CAMx formats)
-/
namespace Props.C14
open Words

section uamiv
open Camx

/-- **C14.** For every file `w` the memory-mapped uamiv reader accepts and every prefix of it
(`m` whole words plus `extra` < 4 bytes, i.e. every byte offset at which the file can be cut),
opening the prefix either raises or presents exactly the first `k` complete time steps of the
full file, with identical header, grid, species list and dimension counts. -/
theorem prefix_safe (w : List Word) (m extra : Nat) (hx : extra < 4) (hm : 4 * m + extra ≤ 4 * w.length)
    (v0 : MMView) (h0 : decodeMM w 0 = .ok v0) :
    (∃ e, decodeMM (w.take m) extra = .error e) ∨
    (∃ k, k ≤ v0.steps.length ∧ decodeMM (w.take m) extra = .ok { v0 with steps := v0.steps.take k }) :=
  Camx.prefix_safe w m extra hx hm v0 h0

/-- a cut that is not on a word boundary always raises (once the header is complete the
"Partial time output" check fires; before that numpy.memmap refuses the header) -/
theorem odd_cut_raises (w : List Word) (extra : Nat) (h1 : 0 < extra) (h2 : extra < 4) :
    ∃ e, decodeMM w extra = .error e := by
  cases hd : decodeMM w extra with
  | error e => exact ⟨e, rfl⟩
  | ok v =>
    -- an accepted file is a whole number of words
    obtain ⟨nt, -, h, -⟩ := (decodeMM_eq_ok w extra v).mp hd
    omega

end uamiv

/-! ### slab formats (one3d, humidity, vertical diffusivity, temperature, height/pressure) -/

section slab
open Slab Props.C13

theorem take_flatten_uniform {α} (n : Nat) : ∀ (ps : List (List α)) (q : Nat), (∀ p ∈ ps, p.length = n) →
    ps.flatten.take (q * n) = (ps.take q).flatten :=
  fun _ q h => List.take_flatten_uniform h q

theorem leading_take (l : List (List Word)) (q : Nat) : leading (l.take q) = min (leading l) q := by
  cases l with
  | nil => simp [leading]
  | cons r rest =>
    cases q with
    | zero => simp [leading]
    | succ q =>
      simp only [List.take_succ_cons, leading, ← List.take_takeWhile, List.length_take]
      rw [Nat.add_comm 1 (min _ _), Nat.add_comm 1 (List.length _), Nat.add_min_add_right, Nat.min_comm]

theorem mmDecode_accepts {k : Kind} {cells : Nat} {ws : List Word} {v : View} (h : mmDecode k cells ws = some v) :
    ws.length % (cells + 4) = 0 ∧
      leading (chunk (cells + 4) ws ws.length) ≠ 0 ∧
      leading (chunk (cells + 4) ws ws.length) ≠ (chunk (cells + 4) ws ws.length).length ∧
      (chunk (cells + 4) ws ws.length).length % leading (chunk (cells + 4) ws ws.length) = 0 := by
  unfold mmDecode at h
  obtain ⟨hmod, h⟩ := Option.ite_none_left_eq_some.mp h
  unfold mmRows at h
  obtain ⟨hg, -⟩ := Option.ite_none_left_eq_some.mp h
  exact ⟨Classical.not_not.mp hmod, fun h0 => hg (Or.inl h0), fun h1 => hg (Or.inr (Or.inl h1)),
    Classical.not_not.mp fun h2 => hg (Or.inr (Or.inr h2))⟩

theorem wf_take {f : SFile} (h : WF f) {j : Nat} (hj : 2 ≤ j) : WF { f with steps := f.steps.take j } := by
  obtain ⟨s0, s1, rest, hst, hne, hm⟩ := h.two
  refine ⟨fun s hs => h.cells s (List.mem_of_mem_take hs),
    fun s hs s' hs' => h.same s (List.mem_of_mem_take hs) s' (List.mem_of_mem_take hs'),
    s0, s1, rest.take (j - 2), ?_, hne, hm⟩
  obtain ⟨j', rfl⟩ : ∃ j', j = j' + 2 := ⟨j - 2, by omega⟩
  show f.steps.take (j' + 2) = _
  rw [hst]
  rfl

theorem take_encode {f : SFile} (h : WF f) {m : Nat} (hm : ∀ s ∈ f.steps, s.slabs.length = m) (j : Nat) :
    (encode f).take (j * (m * (f.cells + 4))) = encode { f with steps := f.steps.take j } := by
  rw [← Nat.mul_assoc, encode_eq, List.take_flatten_uniform (rows_uniform f h.cells),
    List.take_flatten_uniform (steps_uniform hm), ← List.map_take, encode_eq]

/-- **C14 for the slab formats**: for every well-formed file and EVERY word offset `n` at which it can be cut,
the memory-mapped reader either rejects the prefix or the prefix is exactly the first `j ≥ 2` complete time
steps and the reader presents exactly those steps (any grid, layer count, payload; all three layouts).
(Cuts inside a word cannot be mapped as float32 at all: numpy raises — checked by the correspondence.) -/
theorem slab_prefix_safe (k : Kind) (f : SFile) (h : WF f) (n : Nat) (hn : n ≤ (encode f).length) :
    mmDecode k f.cells ((encode f).take n) = none ∨
    ∃ j, 2 ≤ j ∧ j ≤ f.steps.length ∧ (encode f).take n = encode { f with steps := f.steps.take j } ∧
      mmDecode k f.cells ((encode f).take n) = viewOf k { f with steps := f.steps.take j } := by
  obtain ⟨s0, s1, rest, hst, hne, hm⟩ := h.two
  have hsame : ∀ s ∈ f.steps, s.slabs.length = s0.slabs.length :=
    fun s hs => h.same s hs s0 (hst ▸ List.mem_cons_self)
  have hrows := rows_uniform f h.cells
  -- `prefix_cases` with `off = 0`: a slab file has no header
  have hlen : (encode f).length = 0 + f.steps.length * (s0.slabs.length * (f.cells + 4)) := by
    rw [encode_length f h.cells, framed_rows_length hsame, Nat.zero_add, Nat.mul_comm s0.slabs.length, Nat.mul_assoc]
  refine List.prefix_cases (read := mmDecode k f.cells) (cut := fun j => encode { f with steps := f.steps.take j })
    (out := fun j => viewOf k { f with steps := f.steps.take j }) (Nat.mul_pos hm (Nat.succ_pos _)) hlen
    (fun j => by rw [Nat.zero_add, take_encode h hsame j]) (fun j hj _ => mm_decode_encode k _ (wf_take h hj))
    (fun m hm' v hd => ?_) n
  -- an accepted prefix is `q` whole records, and these are `j` whole steps
  obtain ⟨hmod, hg0, hg1, hg2⟩ := mmDecode_accepts hd
  rw [List.length_take, Nat.min_eq_left hm'] at hmod hg0 hg1 hg2
  obtain ⟨q, rfl⟩ : ∃ q, m = q * (f.cells + 4) := ⟨_, (Nat.div_mul_cancel (Nat.dvd_of_mod_eq_zero hmod)).symm⟩
  have hqle : q ≤ ((f.steps.map framedStep).flatten).length := by
    rw [encode_length f h.cells] at hm'
    exact Nat.le_of_mul_le_mul_right hm' (Nat.succ_pos _)
  have hrows' : ∀ p ∈ ((f.steps.map framedStep).flatten).take q, p.length = f.cells + 4 :=
    fun p hp => hrows p (List.mem_of_mem_take hp)
  rw [encode_eq, List.take_flatten_uniform hrows, chunk_flatten (f.cells + 4) (Nat.succ_pos _) _ _ hrows' (by
      rw [List.length_flatten_uniform hrows', List.length_take, Nat.min_eq_left hqle]),
    leading_take, leading_eq f h s0 s1 rest hst hne hm] at hg0 hg1 hg2
  rw [List.length_take, Nat.min_eq_left hqle] at hg1 hg2
  have hmin : min s0.slabs.length q = s0.slabs.length :=
    (Nat.le_total s0.slabs.length q).elim Nat.min_eq_left fun hle => absurd (Nat.min_eq_right hle) hg1
  rw [hmin] at hg2
  obtain ⟨j, rfl⟩ : ∃ j, q = j * s0.slabs.length := ⟨_, (Nat.div_mul_cancel (Nat.dvd_of_mod_eq_zero hg2)).symm⟩
  refine ⟨j, Nat.le_of_not_lt fun hc => ?_, by rw [Nat.zero_add, Nat.mul_assoc]⟩
  -- no step: the leading run is empty; one step: the leading run is the whole prefix
  obtain rfl | rfl := Nat.le_one_iff_eq_zero_or_eq_one.mp (Nat.le_of_lt_succ hc)
  · exact hg0 (by rw [Nat.zero_mul, Nat.min_zero])
  · exact hg1 (by rw [Nat.one_mul, Nat.min_self])

end slab

/-- **C14 (lateral boundary files).** For every well-formed boundary file and every cut point in words, the
memory-mapped reader either rejects the prefix or the prefix is exactly the encoding of the same headers and edge
definitions with the leading `k ≥ 1` time steps, and that is what the reader presents: never a partial step, never a
step with other content.  (A cut inside a word is rejected by numpy before the reader sees any step: the byte length
is then no multiple of the block size.) -/
theorem boundary_prefix_safe (nspec nx ny nz : Nat) (f : Boundary.BFile) (w : Boundary.WFb nspec nx ny nz f) (n : Nat) :
    Boundary.read ((Boundary.encode f).take n) = none ∨
    ∃ k, 1 ≤ k ∧ k ≤ f.steps.length ∧ (Boundary.encode f).take n = Boundary.encode { f with steps := f.steps.take k } ∧
      Boundary.read ((Boundary.encode f).take n) = some { f with steps := f.steps.take k } :=
  Boundary.read_prefix nspec nx ny nz f w n

/-- non-vacuity: in the two-step example both outcomes occur — the file cut after its first step is read as that step,
the file cut one word later is rejected -/
example : Boundary.read ((Boundary.encode Props.C09.exBoundary).take (157 + 68)) =
      some { Props.C09.exBoundary with steps := Props.C09.exBoundary.steps.take 1 } ∧
    Boundary.read ((Boundary.encode Props.C09.exBoundary).take (157 + 69)) = none := by
  decide +kernel

/-- **C14 (wind files).** For every well-formed wind file and every cut point in words, the memory-mapped reader
rejects a prefix that does not hold the first time step completely and otherwise presents exactly the leading whole
time steps of the file — `n / (words per step)` of them, identical to those of the full file. -/
theorem wind_prefix_safe (cells nz h : Nat) (steps : List Wind.WStep) (w : Wind.WFw cells nz h steps) (n : Nat) :
    Wind.read cells ((Wind.encode steps).take n) =
      if n < (h + 2) + (cells + 2) * (2 * nz) + 3 then none
      else some (steps.take (n / ((h + 2) + (cells + 2) * (2 * nz) + 3))) :=
  Wind.read_prefix cells nz h steps w n

/-- in particular what a prefix presents is a prefix of what the full file presents, and it is never empty -/
theorem wind_prefix_steps (cells nz h : Nat) (steps : List Wind.WStep) (w : Wind.WFw cells nz h steps) (n : Nat)
    (got : List Wind.WStep) (hgot : Wind.read cells ((Wind.encode steps).take n) = some got) :
    ∃ k, 1 ≤ k ∧ got = steps.take k := by
  rw [wind_prefix_safe cells nz h steps w n] at hgot
  split at hgot
  · exact absurd hgot (by simp)
  · rename_i hn
    refine ⟨n / ((h + 2) + (cells + 2) * (2 * nz) + 3), ?_, (Option.some.inj hgot).symm⟩
    exact (Nat.one_le_div_iff (Nat.succ_pos _)).mpr (Nat.le_of_not_lt hn)

/-- non-vacuity: the two-step example (16 words per step) cut after 15, 16, 31 and 32 words -/
example :
    let steps : List Wind.WStep := [⟨1, 19200, some 0, [[1, 2], [3, 4]]⟩, ⟨2, 19200, some 0, [[5, 6], [7, 8]]⟩]
    Wind.read 2 ((Wind.encode steps).take 15) = none ∧ Wind.read 2 ((Wind.encode steps).take 16) = some (steps.take 1) ∧
    Wind.read 2 ((Wind.encode steps).take 31) = some (steps.take 1) ∧ Wind.read 2 ((Wind.encode steps).take 32) = some steps := by
  intro steps
  have w : Wind.WFw 2 1 3 steps :=
    ⟨by decide +kernel, by decide +kernel, by decide +kernel, by decide +kernel, by decide +kernel⟩
  exact ⟨wind_prefix_safe 2 1 3 steps w 15, wind_prefix_safe 2 1 3 steps w 16, wind_prefix_safe 2 1 3 steps w 31,
    wind_prefix_safe 2 1 3 steps w 32⟩

end Props.C14
