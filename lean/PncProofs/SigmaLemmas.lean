import PncProofs.InterpLemmas
import Mathlib.Data.Rat.Floor

/-! `fidx` on a descending edge list; `cum w e` is the weight of `w` below fractional index `e`: a column of the code
against `w` is an increment of `cum w` (`dot_coeffCol`), so sums over all columns telescope (`sum_columns`). -/

namespace Interp

def Desc : List ℚ → Prop
  | a :: b :: rest => a > b ∧ Desc (b :: rest)
  | _ => True

def DescW : List ℚ → Prop
  | a :: b :: rest => a ≥ b ∧ DescW (b :: rest)
  | _ => True

theorem isDesc_iff : ∀ l : List ℚ, isDesc l = true ↔ Desc l
  | [] => iff_of_true rfl trivial
  | [_] => iff_of_true rfl trivial
  | a :: b :: rest => by rw [isDesc, Desc, Bool.and_eq_true, decide_eq_true_iff, isDesc_iff (b :: rest)]

theorem desc_iff_pairwise (l : List ℚ) : Desc l ↔ l.Pairwise (· > ·) :=
  List.pairwise_of_rec trivial (fun _ => trivial) (fun _ _ _ => Iff.rfl) l

theorem descW_iff_pairwise (l : List ℚ) : DescW l ↔ l.Pairwise (· ≥ ·) :=
  List.pairwise_of_rec trivial (fun _ => trivial) (fun _ _ _ => Iff.rfl) l

theorem Desc.weak {l : List ℚ} (h : Desc l) : DescW l :=
  (descW_iff_pairwise l).mpr (((desc_iff_pairwise l).mp h).imp le_of_lt)

theorem DescW.getElem_le {l : List ℚ} (h : DescW l) {i j : ℕ} (hj : j < l.length) (hij : i ≤ j) :
    l[j] ≤ l[i]'(lt_of_le_of_lt hij hj) := by
  rcases hij.eq_or_lt with rfl | hlt
  · exact le_rfl
  · exact List.pairwise_iff_getElem.mp ((descW_iff_pairwise l).mp h) i j (hlt.trans hj) hj hlt

theorem DescW.mem_range {l : List ℚ} (h : DescW l) (hne : l ≠ []) {d : ℚ} (hd : d ∈ l) :
    l.getLast hne ≤ d ∧ d ≤ l.head hne := by
  obtain ⟨i, hi, rfl⟩ := List.getElem_of_mem hd
  rw [List.getLast_eq_getElem, List.head_eq_getElem]
  exact ⟨h.getElem_le _ (Nat.le_pred_of_lt hi), h.getElem_le hi (Nat.zero_le i)⟩

theorem clamp01_of_nonpos {x : ℚ} (h : x ≤ 0) : clamp01 x = 0 :=
  max_eq_left ((min_le_right 1 x).trans h)
theorem clamp01_of_ge_one {x : ℚ} (h : 1 ≤ x) : clamp01 x = 1 := by
  rw [clamp01, min_eq_left h]
  exact max_eq_right zero_le_one
theorem clamp01_of_mem {x : ℚ} (h0 : 0 ≤ x) (h1 : x ≤ 1) : clamp01 x = x := by
  rw [clamp01, min_eq_right h1]
  exact max_eq_right h0

/-- `Σ_l w_l · clamp01 (e - l)`: how much of the layer weights `w` lies below fractional index
`e`. With `w = thick src` the cumulative thickness, with `w = data · thick src` the cumulative mass. -/
def cum : List ℚ → ℚ → ℚ
  | w :: ws, e => w * clamp01 e + cum ws (e - 1)
  | [], _ => 0

theorem cum_nonpos : ∀ (w : List ℚ) (e : ℚ), e ≤ 0 → cum w e = 0
  | [] => fun _ _ => rfl
  | w :: ws => fun e h => by
    rw [cum, clamp01_of_nonpos h, cum_nonpos ws (e - 1) ((sub_le_self e zero_le_one).trans h), mul_zero, add_zero]

theorem cum_full : ∀ (w : List ℚ) (e : ℚ), (w.length : ℚ) ≤ e → cum w e = sum w
  | [] => fun _ _ => rfl
  | w :: ws => fun e h => by
    rw [List.length_cons, Nat.cast_succ] at h
    rw [cum, clamp01_of_ge_one ((le_add_of_nonneg_left (Nat.cast_nonneg _)).trans h),
      cum_full ws (e - 1) (le_sub_iff_add_le.mpr h), mul_one, sum_cons]

/-- the two- and the many-node clause of `fidx` in one (they agree because `fidx [s1] v = 0`) -/
theorem fidx_cons_cons (s0 s1 : ℚ) (rest : List ℚ) (v : ℚ) : fidx (s0 :: s1 :: rest) v =
    if v ≥ s0 then 0 else if v ≥ s1 then (s0 - v) / (s0 - s1) else 1 + fidx (s1 :: rest) v := by
  cases rest with
  | nil => simp only [fidx, add_zero]
  | cons s2 rest => rfl

theorem fidx_head : ∀ (l : List ℚ) (hne : l ≠ []), fidx l (l.head hne) = 0
  | [_], _ => rfl
  | s0 :: s1 :: rest, _ => by rw [fidx_cons_cons, List.head_cons, if_pos le_rfl]

theorem fidx_cons_of_ge {s0 s1 : ℚ} (rest : List ℚ) {v : ℚ} (h1 : s1 ≤ v) (h0 : v ≤ s0) :
    fidx (s0 :: s1 :: rest) v = (s0 - v) / (s0 - s1) := by
  rw [fidx_cons_cons, if_pos h1]
  split_ifs with h
  · rw [le_antisymm h0 h, sub_self, zero_div]
  · rfl

/-- also at `v = s1`, where the tail's index is 0 and the first layer's is 1 -/
theorem fidx_cons_of_le {s0 s1 : ℚ} (rest : List ℚ) {v : ℚ} (h01 : s1 < s0) (hv : v ≤ s1) :
    fidx (s0 :: s1 :: rest) v = 1 + fidx (s1 :: rest) v := by
  rw [fidx_cons_cons, if_neg (not_le.mpr (hv.trans_lt h01))]
  split_ifs with h
  · obtain rfl := le_antisymm hv h
    rw [div_self (sub_pos.mpr h01).ne', show fidx (v :: rest) v = 0 from fidx_head _ (List.cons_ne_nil _ _),
      add_zero]
  · rfl

theorem fidx_nonneg : ∀ (l : List ℚ) (v : ℚ), Desc l → 0 ≤ fidx l v
  | [] => fun _ _ => le_rfl
  | [_] => fun _ _ => le_rfl
  | s0 :: s1 :: rest => fun v h => by
    rw [fidx_cons_cons]
    split_ifs with h0 h1
    · exact le_rfl
    · exact div_nonneg (sub_nonneg.mpr (not_le.mp h0).le) (sub_nonneg.mpr h.1.le)
    · exact add_nonneg zero_le_one (fidx_nonneg (s1 :: rest) v h.2)

theorem fidx_last : ∀ (l : List ℚ) (hne : l ≠ []), Desc l → fidx l (l.getLast hne) = (l.length - 1 : ℕ)
  | [] => fun h => absurd rfl h
  | [_] => fun _ _ => Nat.cast_zero.symm
  | s0 :: s1 :: rest => fun _ hd => by
    rw [List.getLast_cons_cons, fidx_cons_of_le rest hd.1
      ((Desc.weak hd.2).mem_range (List.cons_ne_nil _ _) (List.getLast_mem _)).2,
      fidx_last (s1 :: rest) (List.cons_ne_nil _ _) hd.2]
    simp only [List.length_cons, Nat.add_sub_cancel, Nat.cast_succ]
    exact add_comm _ _

theorem fidx_antitone : ∀ (l : List ℚ) (v w : ℚ), Desc l → w ≤ v → fidx l v ≤ fidx l w
  | [] => fun _ _ _ _ => le_rfl
  | [_] => fun _ _ _ _ => le_rfl
  | s0 :: s1 :: rest => fun v w hd hvw => by
    have hpos : 0 < s0 - s1 := sub_pos.mpr hd.1
    rcases le_total s0 v with a0 | a0
    · rw [fidx_cons_cons s0 s1 rest v, if_pos a0]
      exact fidx_nonneg _ w hd
    rcases le_total v s1 with a1 | a1
    · rw [fidx_cons_of_le rest hd.1 a1, fidx_cons_of_le rest hd.1 (hvw.trans a1)]
      exact add_le_add le_rfl (fidx_antitone (s1 :: rest) v w hd.2 hvw)
    -- `v` in the first layer: `w` is there too, or below it
    rw [fidx_cons_of_ge rest a1 a0]
    rcases le_total w s1 with b1 | b1
    · rw [fidx_cons_of_le rest hd.1 b1]
      exact (div_le_one_of_le₀ (sub_le_sub_left a1 s0) hpos.le).trans
        (le_add_of_nonneg_right (fidx_nonneg (s1 :: rest) w hd.2))
    · rw [fidx_cons_of_ge rest b1 (hvw.trans a0)]
      exact div_le_div_of_nonneg_right (sub_le_sub_left hvw s0) hpos.le

theorem thick_length : ∀ (l : List ℚ), (thick l).length = l.length - 1
  | [] => rfl
  | [_] => rfl
  | a :: b :: rest => by
    rw [thick, List.length_cons, thick_length (b :: rest)]
    rfl

theorem thick_ne_zero : ∀ (l : List ℚ), Desc l → ∀ x ∈ thick l, x ≠ 0
  | [], _, _, hx => absurd hx List.not_mem_nil
  | [_], _, _, hx => absurd hx List.not_mem_nil
  | a :: b :: rest, h, x, hx => by
    rcases List.mem_cons.mp hx with rfl | hx
    · exact (sub_pos.mpr h.1).ne'
    · exact thick_ne_zero (b :: rest) h.2 x hx

theorem cum_thick_fidx : ∀ (l : List ℚ) (v : ℚ) (hne : l ≠ []), Desc l →
    l.getLast hne ≤ v → v ≤ l.head hne → cum (thick l) (fidx l v) = l.head hne - v
  | [] => fun _ h => absurd rfl h
  | [s0] => fun v _ _ h1 h0 => (sub_eq_zero.mpr (le_antisymm h1 h0)).symm
  | s0 :: s1 :: rest => fun v _ hd h1 h0 => by
    have hpos : 0 < s0 - s1 := sub_pos.mpr hd.1
    rw [List.head_cons] at h0 ⊢
    rw [thick, cum]
    -- layers above `v` count fully, `v`'s own layer by its fraction, those below nothing
    rcases le_total v s1 with c | c
    · rw [fidx_cons_of_le rest hd.1 c, clamp01_of_ge_one (le_add_of_nonneg_right (fidx_nonneg _ v hd.2)),
        add_sub_cancel_left, cum_thick_fidx (s1 :: rest) v (List.cons_ne_nil _ _) hd.2 h1 c, List.head_cons, mul_one,
        sub_add_sub_cancel]
    · have he1 : (s0 - v) / (s0 - s1) ≤ 1 := div_le_one_of_le₀ (sub_le_sub_left c s0) hpos.le
      rw [fidx_cons_of_ge rest c h0, clamp01_of_mem (div_nonneg (sub_nonneg.mpr h0) hpos.le) he1,
        cum_nonpos _ _ (sub_nonpos.mpr he1), mul_div_cancel₀ _ hpos.ne', add_zero]

theorem floorZ_eq (q : ℚ) : floorZ q = ⌊q⌋ := Rat.floor_def'.symm
theorem ceilZ_eq (q : ℚ) : ceilZ q = ⌈q⌉ := by rw [ceilZ, ← Rat.floor_def', Int.floor_neg, neg_neg]

theorem codeCoeff_eq_clamp (b t : ℚ) (lay : ℤ) (h : b ≤ t) :
    codeCoeff b t lay = clamp01 (t - lay) - clamp01 (b - lay) := by
  unfold codeCoeff
  rw [floorZ_eq, ceilZ_eq]
  split_ifs with hc <;> rw [Int.floor_le_iff, Int.lt_ceil] at hc
  · -- the layer meets `(b, t)`: `b - lay < 1` and `0 < t - lay`
    rw [clamp01, clamp01, max_eq_right (le_min zero_le_one (sub_pos.mpr hc.2).le), min_comm,
      min_eq_right (sub_lt_iff_lt_add'.mpr hc.1).le, max_comm]
  · rcases not_and_or.mp hc with hc | hc
    · have hb : 1 ≤ b - lay := le_sub_iff_add_le'.mpr (not_lt.mp hc)
      rw [clamp01_of_ge_one hb, clamp01_of_ge_one (hb.trans (sub_le_sub_right h _)), sub_self]
    · have ht : t - lay ≤ 0 := sub_nonpos.mpr (not_lt.mp hc)
      rw [clamp01_of_nonpos ht, clamp01_of_nonpos ((sub_le_sub_right h _).trans ht), sub_self]

theorem dot_coeffCol {b t : ℚ} (h : b ≤ t) : ∀ (w : List ℚ) (n : ℕ) (l0 : ℤ), w.length ≤ n →
    dot w (coeffCol b t n l0) = cum w (t - l0) - cum w (b - l0)
  | [], _ => fun _ _ => (sub_self 0).symm
  | _ :: _, 0 => fun _ hn => absurd hn (Nat.not_succ_le_zero _)
  | w :: ws, n + 1 => fun l0 hn => by
    rw [coeffCol, dot, dot_coeffCol h ws n (l0 + 1) (Nat.le_of_succ_le_succ hn), codeCoeff_eq_clamp b t l0 h, cum,
      cum, Int.cast_add, Int.cast_one, ← sub_sub, ← sub_sub, mul_sub, add_sub_add_comm]

theorem coeffCol_getD (b t : ℚ) : ∀ (n : ℕ) (l0 : ℤ) (i : ℕ), i < n →
    (coeffCol b t n l0).getD i 0 = codeCoeff b t (l0 + i)
  | 0, _, _, h => absurd h (Nat.not_lt_zero _)
  | n + 1, l0, 0, _ => by rw [coeffCol, List.getD_cons_zero, Nat.cast_zero, add_zero]
  | n + 1, l0, i + 1, h => by
    rw [coeffCol, List.getD_cons_succ, coeffCol_getD b t n (l0 + 1) i (Nat.lt_of_succ_lt_succ h), Nat.cast_succ,
      add_assoc, add_comm 1]

theorem pairs_map_cons (f : ℚ → ℚ) (a b : ℚ) (rest : List ℚ) :
    pairs ((a :: b :: rest).map f) = (f a, f b) :: pairs ((b :: rest).map f) := rfl

theorem telescope (g : ℚ → ℚ) : ∀ (es : List ℚ) (hne : es ≠ []),
    sum ((pairs es).map (fun p => g p.2 - g p.1)) = g (es.getLast hne) - g (es.head hne)
  | [_], _ => (sub_self _).symm
  | a :: b :: rest, _ => by
    rw [pairs, List.map_cons, sum_cons, telescope g (b :: rest) (List.cons_ne_nil _ _), List.getLast_cons_cons,
      List.head_cons, List.head_cons, sub_add_sub_cancel']

theorem edges_mono (src : List ℚ) (hs : Desc src) : ∀ (dst : List ℚ), DescW dst →
    ∀ p ∈ pairs (dst.map (fidx src)), p.1 ≤ p.2
  | [] => fun _ _ hp => absurd hp List.not_mem_nil
  | [_] => fun _ _ hp => absurd hp List.not_mem_nil
  | d0 :: d1 :: rest => fun hd p hp => by
    rw [pairs_map_cons] at hp
    rcases List.mem_cons.mp hp with rfl | hp
    · exact fidx_antitone src d0 d1 hs hd.1
    · exact edges_mono src hs (d1 :: rest) hd.2 p hp

/-- telescoping: `F` of a column is the increment of a cumulative `G` between the column's fractional edges -/
theorem sum_columns (src dst : List ℚ) (hsne : src ≠ []) (hdne : dst ≠ []) (hs : Desc src) (hd : DescW dst)
    (htop : dst.head hdne = src.head hsne) (hbot : dst.getLast hdne = src.getLast hsne)
    (F : List ℚ → ℚ) (G : ℚ → ℚ)
    (hFG : ∀ b t, b ≤ t → F (coeffCol b t (src.length - 1) 0) = G t - G b) :
    sum ((sigma2coeff src dst).map F) = G ((src.length - 1 : ℕ) : ℚ) - G 0 := by
  have hne' : dst.map (fidx src) ≠ [] := by simpa using hdne
  have hcol : (sigma2coeff src dst).map F
      = (pairs (dst.map (fidx src))).map (fun p => G p.2 - G p.1) := by
    unfold sigma2coeff
    rw [List.map_map]
    exact List.map_congr_left fun p hp => hFG p.1 p.2 (edges_mono src hs dst hd p hp)
  rw [hcol, telescope G _ hne', List.getLast_map, List.head_map, htop, hbot, fidx_head, fidx_last src hsne hs]

end Interp
