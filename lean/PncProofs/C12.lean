import PncModel.TimeDec
import PncProofs.CalLemmas

/-!
# C12 — decoded times are the true instants: property theorems

Instants are seconds since 0001-01-01T00:00 UTC.  The first-principles specification of a Julian
flag (YYYYJJJ, HHMMSS) is: the sum of the lengths of all years before YYYY, plus JJJ-1 days, plus
the time of day.
-/
namespace Props.C12
open Cal TimeDec

/-- first-principles days before year `n+1`: sum of the lengths of years 1..n -/
def daysBeforeYearSpec : ℕ → ℤ
  | 0 => 0
  | n + 1 => daysBeforeYearSpec n + yearLen ((n : ℤ) + 1)

/-- the closed form used by the model (and by `datetime`) is that sum, for every year -/
theorem dby_is_sum_of_year_lengths (n : ℕ) : dby ((n : ℤ) + 1) = daysBeforeYearSpec n := by
  induction n with
  | zero => exact dby_one
  | succ n ih =>
    simp only [daysBeforeYearSpec, ← ih]
    push_cast
    exact dby_succ ((n : ℤ) + 1)

/-- the true instant of a flag, from first principles -/
def instantSpec (yearsBefore : ℕ) (j h m s : ℤ) : ℤ :=
  (daysBeforeYearSpec yearsBefore + (j - 1)) * 86400 + h * 3600 + m * 60 + s

/-- **C12 (TFLAG).** The TFLAG branch of getTimes decodes (YYYYJJJ, HHMMSS) to the true instant. -/
theorem tflag_decodes_true_instant (n : ℕ) (j h m s : ℤ) (hj : 0 ≤ j) (hj' : j < 1000)
    (hm : 0 ≤ m) (hm' : m < 100) (hs : 0 ≤ s) (hs' : s < 100) (hh : 0 ≤ h) :
    decJ ((((n : ℤ) + 1) * 1000) + j) (h * 10000 + m * 100 + s) = instantSpec n j h m s := by
  obtain ⟨e1, e2⟩ := ediv_emod_digit (k := 1000) (q := (n : ℤ) + 1) hj hj'
  rw [decJ_eq, e1, e2, hmsSeconds_digits h m s ⟨hm, hm'⟩ ⟨hs, hs'⟩, instantSpec, instant, yd2ord,
    dby_is_sum_of_year_lengths]
  ring

/-- **C12 (flags round trip).** Encoding an instant as (YYYYJJJ, HHMMSS) and decoding it gives the
instant back (every instant from year 1 on); a valid flag re-encodes to itself. -/
theorem flags_roundtrip (t : ℤ) (ht : 0 ≤ t) (d f : ℤ) (hv : validFlag d f = true) :
    decJ (encJ t).1 (encJ t).2 = t ∧ encJ (decJ d f) = (d, f) :=
  ⟨decJ_encJ t ht, encJ_decJ d f hv⟩

/-- **C12 (attribute times).** element `i` of the SDATE/STIME/TSTEP times is start + i·step -/
theorem attr_times_arith (sdate stime tstep : ℤ) (n : ℕ) (b : Bool) (ts : List ℤ)
    (h : attrTimes sdate stime tstep n b = .ok ts) :
    ts = (List.range (if b then n + 1 else n)).map
      (fun i => decJ (if sdate < 1 then 1970001 else sdate) stime + tstepSeconds tstep * (i : ℕ)) := by
  rw [attrTimes] at h
  generalize (if sdate < 1 then 1970001 else sdate) = jd at h ⊢
  split at h
  · cases h
  · exact (Except.ok.inj h).symm

/-- **C12 (synthesised flags).** The flags written by `updatetflag` from SDATE/STIME/TSTEP decode
(through the TFLAG branch) to exactly the attribute times, for any start, step and length —
day, year and leap-day roll-overs included. -/
theorem synth_decodes_to_attr_times (sdate stime tstep : ℤ) (n : ℕ) (ts : List ℤ)
    (hts : attrTimes sdate stime tstep n false = .ok ts) (hpos : ∀ t ∈ ts, 0 ≤ t) :
    ∃ fl, synthFlags sdate stime tstep n = .ok fl ∧ decodeTflag fl = ts := by
  refine ⟨ts.map encJ, by rw [synthFlags, hts]; rfl, ?_⟩
  rw [decodeTflag, List.map_map]
  refine (List.map_congr_left fun t ht => ?_).trans (List.map_id ts)
  show decJ (fixDate (encJ t).1) (encJ t).2 = t
  have := encJ_date_pos t (hpos t ht)
  rw [fixDate, if_neg (by omega)]
  exact decJ_encJ t (hpos t ht)

/-- **C12 (add_time_variable).** The CF `time` variable synthesised from the flags ("seconds since
1970-01-01") decodes to the same instants as the flags. -/
theorem atv_decodes_to_flags (flags : List (ℤ × ℤ)) :
    (atvTimeFromFlags flags).map (fun n => epoch1970 + n * 1) = flags.map (fun p => decJ p.1 p.2) := by
  unfold atvTimeFromFlags
  rw [List.map_map]
  apply List.map_congr_left
  intro p _
  simp only [Function.comp]
  ring

/-- **C12 (inverse).** For the standard calendars, converting the decoded instants back with the
unit and reference gives the stored numbers. -/
theorem cf_standard_inverse (unit : String) (r : Ref) (vals ts : List ℚ) (u : ℚ)
    (hu : unitSeconds unit = some u) (hne : u ≠ 0) (h : cfStandard unit r vals = .ok ts) :
    ts.map (fun t => (t - (r.instant : ℚ)) / u) = vals := by
  rw [cfStandard, hu] at h
  cases h
  rw [List.map_map]
  refine (List.map_congr_left fun n _ => ?_).trans (List.map_id vals)
  show ((r.instant : ℚ) + n * u - r.instant) / u = n
  rw [add_sub_cancel_left, mul_div_cancel_right₀ n hne]

theorem numDigits_le : ∀ (fuel T k : ℕ), 1 ≤ k → T < 10 ^ k → numDigits fuel T ≤ k
  | 0, _, k, hk, _ => hk
  | fuel + 1, T, 0, hk, _ => absurd hk (by decide)
  | fuel + 1, T, k + 1, _, hT => by
    rw [numDigits]
    split
    · omega
    · rename_i h10
      -- at least two digits: one is dropped
      have hk : 1 ≤ k := Nat.pos_of_ne_zero fun h0 => h10 (by simpa [h0] using hT)
      have := numDigits_le fuel (T / 10) k hk (Nat.div_lt_of_lt_mul (Nat.pow_succ' ▸ hT))
      omega

/-- `add_time_variable` reads every TSTEP — any number of hour digits — as the IOAPI rule says (repaired code) -/
theorem atv_tstep_ok (T : ℕ) : (tstepSecondsATV T : ℤ) = tstepSeconds (T : ℤ) := by
  -- the minute digits taken as `T / 100 % 100` and as `T % 10000 / 100`
  rw [tstepSeconds, if_neg (Int.not_lt.mpr (Int.natCast_nonneg _)), hmsSeconds, tstepSecondsATV,
    ← Nat.mod_mul_right_div_self T 100 100]
  push_cast
  ring

/-- **C12 (TSTEP).** hours, minutes and seconds of a step are read digit-wise from the magnitude -/
theorem tstep_decode (h m s : ℕ) (hm : m < 60) (hs : s < 60) :
    tstepSeconds ((h * 10000 + m * 100 + s : ℕ) : ℤ) = ((h * 3600 + m * 60 + s : ℕ) : ℤ) := by
  rw [tstepSeconds, if_neg (Int.not_lt.mpr (Int.natCast_nonneg _))]
  push_cast
  exact hmsSeconds_digits h m s (by omega) (by omega)

/-- a file that runs backward in time: the step is the mirror image of the forward step -/
theorem tstep_neg (T : ℤ) : tstepSeconds (-T) = - tstepSeconds T := by
  unfold tstepSeconds
  rcases Int.lt_trichotomy T 0 with h | rfl | h
  · rw [if_neg (by omega), if_pos h, Int.neg_neg]
  · rfl
  · rw [if_pos (by omega), if_neg (by omega), Int.neg_neg]

/-- reading a negative TSTEP digit-wise with floor division (the code before the repair): -1 h 30 min came out as
-50 min; `fixed: property=C12 2faec4b`, the witness is replayed on the real code and must not reproduce -/
theorem tstep_floor_counterexample : hmsSeconds (-13000) = -3000 ∧ tstepSeconds (-13000) = -5400 := by decide

/-- the character-position slicing the code used before mis-read a seven-digit TSTEP (100 hours):
`fixed: property=C12 … tstep-7-digits`, the witness is replayed on the real code and must not reproduce -/
theorem atv_tstep_counterexample :
    tstepSecondsSliced 1000000 = 36000 ∧ tstepSeconds 1000000 = 360000 ∧ tstepSecondsATV 1000000 = 360000 := by decide

/-- The 365/366-day calendar path drops the time of day: half a day after the reference decodes
to the same instant as the reference itself (recorded finding
`C12/getTimes/365-366-day-calendar-path`, witness replayed on the real code). -/
theorem yearlike_drops_time_of_day :
    let r : Ref := ⟨2000, 1, 1, 0, 0⟩
    (cfYearlike 365 "days" r [1 / 2]).toOption = (cfYearlike 365 "days" r [0]).toOption ∧
    (cfYearlike 365 "seconds" r [86400]).toOption
      = some [((Cal.instant (ymd2ord 2000 3 2) 0 : ℤ) : ℚ)] := by
  decide +kernel

/-- non-vacuity: a valid flag across a leap-year end, and its successor instant -/
example : validFlag 2020366 230000 = true ∧ encJ (decJ 2020366 230000 + 3600) = (2021001, 0) := by
  decide +kernel

end Props.C12
