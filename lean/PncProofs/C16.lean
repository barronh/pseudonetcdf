import PncProofs.Val2idxLemmas

/-!
# C16 — value-to-index lookup: property theorems

`xs` is the coordinate (or the edge list) in ascending order — for a descending coordinate the
code (after the `fix:` commits) reverses coordinate and index table, so `xs` is the reversed
coordinate, the fractional index is `(n-1) - fpos xs x` and index `r'` of the original
coordinate is position `n-1-r'` of `xs`.
-/
namespace Props.C16
open Val2idx

/-- range of the fractional index (re-exported) -/
theorem fpos_range (xs : List ℚ) (x : ℚ) (hne : xs ≠ []) (hlen : 2 ≤ xs.length) (hs : Asc xs)
    (h0 : xs.head hne ≤ x) (h1 : x ≤ xs.getLast hne) :
    0 ≤ fpos xs x ∧ fpos xs x ≤ (xs.length - 1 : ℕ) := Val2idx.fpos_range xs x hne hlen hs h0 h1

/-- **C16 nearest, ascending.** For a strictly ascending coordinate and a value inside its
range, `round(fractional index)` is a valid index and no coordinate is closer to the value. -/
theorem nearest (xs : List ℚ) (x : ℚ) (hne : xs ≠ []) (hlen : 2 ≤ xs.length) (hs : Asc xs)
    (h0 : xs.head hne ≤ x) (h1 : x ≤ xs.getLast hne) :
    ∃ (k : ℕ) (hk : k < xs.length), roundHalfEven (fpos xs x) = k ∧
      ∀ (j : ℕ) (hj : j < xs.length), |xs[k] - x| ≤ |xs[j] - x| :=
  near_of_close xs x hne hlen hs h0 h1 _ (roundHalfEven_close _)

/-- **C16 nearest, descending.** `xs` is the reversed coordinate; the code returns
`r' = round((n-1) - fpos)`, i.e. position `n-1-r'` of `xs`, which is again a nearest one. -/
theorem nearest_desc (xs : List ℚ) (x : ℚ) (hne : xs ≠ []) (hlen : 2 ≤ xs.length) (hs : Asc xs)
    (h0 : xs.head hne ≤ x) (h1 : x ≤ xs.getLast hne) :
    ∃ (k : ℕ) (hk : k < xs.length),
      roundHalfEven (((xs.length - 1 : ℕ) : ℚ) - fpos xs x) = ((xs.length - 1 : ℕ) : ℤ) - k ∧
      ∀ (j : ℕ) (hj : j < xs.length), |xs[k] - x| ≤ |xs[j] - x| := by
  have hc := roundHalfEven_close (((xs.length - 1 : ℕ) : ℚ) - fpos xs x)
  generalize roundHalfEven _ = r at hc ⊢
  obtain ⟨k, hk, e, hn⟩ := near_of_close xs x hne hlen hs h0 h1 (((xs.length - 1 : ℕ) : ℤ) - r)
    (by push_cast; rwa [abs_sub_comm, sub_right_comm] at hc)
  exact ⟨k, hk, by omega, hn⟩

/-- **C16 bounds, ascending.** `es` are the n+1 edges; `trunc(min(fractional index, n-1))` names a
cell whose two edges contain the value (closed at both ends; an interior edge belongs to the
upper cell, the last edge to the last cell). -/
theorem bounds_cell (es : List ℚ) (x : ℚ) (hne : es ≠ []) (hlen : 2 ≤ es.length) (hs : Asc es)
    (h0 : es.head hne ≤ x) (h1 : x ≤ es.getLast hne) :
    ∃ (k : ℕ) (hk : k + 1 < es.length),
      trunc0 (min (fpos es x) (((es.length - 1 : ℕ) : ℚ) - 1)) = k ∧ es[k] ≤ x ∧ x ≤ es[k + 1] := by
  obtain ⟨p0, p1⟩ := fpos_range es x hne hlen hs h0 h1
  obtain ⟨k, e, hk, lo, hi⟩ := trunc_min_cell (fpos es x) (es.length - 1) (Nat.le_sub_one_of_lt hlen) p0 p1
  have hk' : k + 1 < es.length := Nat.add_lt_of_lt_sub hk
  exact ⟨k, hk', e, cell_of_between es x hne hlen hs h0 h1 k hk' lo hi⟩

/-- **C16 bounds, descending.** `es` are the reversed edges; the code truncates
`min(n - fpos, n-1)` to `r'`, i.e. ascending cell `n-1-r'`, which contains the value. -/
theorem bounds_cell_desc (es : List ℚ) (x : ℚ) (hne : es ≠ []) (hlen : 2 ≤ es.length) (hs : Asc es)
    (h0 : es.head hne ≤ x) (h1 : x ≤ es.getLast hne) :
    ∃ (k : ℕ) (hk : k + 1 < es.length),
      trunc0 (min (((es.length - 1 : ℕ) : ℚ) - fpos es x) (((es.length - 1 : ℕ) : ℚ) - 1))
        = ((es.length - 1 : ℕ) : ℤ) - 1 - k ∧ es[k] ≤ x ∧ x ≤ es[k + 1] := by
  obtain ⟨p0, p1⟩ := fpos_range es x hne hlen hs h0 h1
  obtain ⟨r, e, hr, lo, hi⟩ := trunc_min_cell (((es.length - 1 : ℕ) : ℚ) - fpos es x) (es.length - 1)
    (Nat.le_sub_one_of_lt hlen) (sub_nonneg.mpr p1) (sub_le_self _ p0)
  -- cell `r` counted from the far end is cell `k` with `r + k + 1 = n`
  obtain ⟨k, hn⟩ := Nat.exists_eq_add_of_lt hr
  rw [e, hn]
  rw [hn, Nat.cast_succ, Nat.cast_add] at lo hi
  have hk : k + 1 < es.length := by omega
  exact ⟨k, hk, by omega, cell_of_between es x hne hlen hs h0 h1 k hk (by linarith only [hi]) (by linarith only [lo])⟩

/-- **C16 exact.** At coordinate node `k` the fractional index is exactly `k`, so the integer
cast returns `k` (ascending) or `n-1-k` of the reversed list (descending); values that are
not coordinates are masked by definition of the model (`c.contains x`). -/
theorem exact_node (xs : List ℚ) (k : ℕ) (hk : k < xs.length) (hlen : 2 ≤ xs.length) (hs : Asc xs) :
    trunc0 (fpos xs (xs[k])) = k ∧
    trunc0 (((xs.length - 1 : ℕ) : ℚ) - fpos xs (xs[k])) = ((xs.length - 1 - k : ℕ) : ℤ) := by
  rw [fpos_at_node xs k hk hlen hs, ← Nat.cast_sub (Nat.le_sub_one_of_lt hk)]
  exact ⟨trunc0_natCast k, trunc0_natCast _⟩

/-- **C16, model level.** For an in-range query with default fills the model of
`val2idx(method='nearest')` returns exactly the rounded fractional index over the (ascending
or reversed) coordinate, so `nearest`/`nearest_desc` speak about what the correspondence
compares with the code. -/
theorem model_nearest (cm : Bool) (xe xc c : List ℚ) (desc : Bool) (x : ℚ)
    (h0 : xc.headD 0 ≤ x) (h1 : x ≤ xc.getLastD 0) :
    lookupOne .nearest cm .dflt .dflt xe xc c desc x
      = .idx (roundHalfEven (if desc then ((xc.length : ℕ) : ℚ) - 1 - fpos xc x else fpos xc x)) := by
  unfold lookupOne fidxOne
  rw [if_neg (by simp), if_neg (by simp), interp_inside _ _ _ _ _ h0 h1]
  exact if_pos rfl

/-- the same for `method='bounds'` -/
theorem model_bounds (cm : Bool) (xe xc c : List ℚ) (desc : Bool) (x : ℚ)
    (h0 : xe.headD 0 ≤ x) (h1 : x ≤ xe.getLastD 0) :
    lookupOne .bounds cm .dflt .dflt xe xc c desc x
      = .idx (trunc0 (min (if desc then ((xe.length : ℕ) : ℚ) - 1 - fpos xe x else fpos xe x)
          (((c.length : ℕ) : ℚ) - 1))) := by
  unfold lookupOne fidxOne
  rw [if_neg (by simp), if_pos rfl, interp_inside _ _ _ _ _ h0 h1]
  simp

/-- non-vacuity: a concrete non-uniform grid meets the hypotheses, with a tie -/
example : Asc [0, 1, 3, 7] ∧ roundHalfEven (fpos [0, 1, 3, 7] 2) = 2 ∧
    roundHalfEven (fpos [0, 1, 3, 7] (1 / 2)) = 0 := by
  exact ⟨(isAsc_iff _).mp (by decide +kernel), by decide +kernel, by decide +kernel⟩

end Props.C16
