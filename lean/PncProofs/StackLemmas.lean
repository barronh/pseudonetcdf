import PncProofs.C01
import PncProofs.C04

/-! # `stack` without unfolding it

Which variables are stacked (`firstByName`: the first of each name), what `stackVar` makes of one of them, and what a
successful `stackFiles` checked and returned, with the lookups `dim?` in the dimensions of the result. -/
namespace Props.C01
open Arr PFile Props.C04

theorem firstByName_mem : ∀ (l acc : List Var) (v : Var), v ∈ firstByName acc l → v ∈ acc ∨ v ∈ l
  | [], acc, v, h => Or.inl h
  | x :: l, acc, v, h => by
    rw [firstByName] at h
    split at h
    · exact (firstByName_mem l acc v h).imp_right (List.mem_cons_of_mem _)
    · rcases firstByName_mem l (acc ++ [x]) v h with h | h
      · rcases List.mem_append.mp h with h | h
        · exact Or.inl h
        · exact Or.inr (List.mem_singleton.mp h ▸ List.mem_cons_self)
      · exact Or.inr (List.mem_cons_of_mem _ h)

theorem firstByName_nodup : ∀ (l acc : List Var), (acc.map (·.name)).Nodup → ((firstByName acc l).map (·.name)).Nodup
  | [], acc, h => by simpa [firstByName] using h
  | x :: l, acc, h => by
    unfold firstByName
    split
    · exact firstByName_nodup l acc h
    · rename_i hx
      refine firstByName_nodup l (acc ++ [x]) (List.nodup_map_concat _ h (fun w hw hwn => hx ?_))
      exact List.any_eq_true.mpr ⟨w, hw, beq_iff_eq.mpr hwn⟩

theorem firstByName_append : ∀ (l1 l2 acc : List Var), firstByName acc (l1 ++ l2) = firstByName (firstByName acc l1) l2
  | [], _, _ => rfl
  | x :: l1, l2, acc => by
    simp only [List.cons_append, firstByName]
    split
    · exact firstByName_append l1 l2 acc
    · exact firstByName_append l1 l2 (acc ++ [x])

theorem firstByName_fresh : ∀ (l acc : List Var), ((acc ++ l).map (·.name)).Nodup → firstByName acc l = acc ++ l
  | [], acc, _ => (List.append_nil acc).symm
  | x :: l, acc, h => by
    have hx : ¬ acc.any (·.name == x.name) = true := fun hany => by
      obtain ⟨y, hy, hyx⟩ := List.any_eq_true.mp hany
      rw [List.map_append, List.nodup_append] at h
      exact h.2.2 y.name (List.mem_map_of_mem hy) x.name (List.mem_map_of_mem List.mem_cons_self) (eq_of_beq hyx)
    rw [firstByName, if_neg hx, firstByName_fresh l (acc ++ [x]) (by rwa [List.append_assoc]), List.append_assoc]
    rfl

theorem firstByName_known : ∀ (l acc : List Var), (∀ x ∈ l, ∃ y ∈ acc, y.name = x.name) → firstByName acc l = acc
  | [], _, _ => rfl
  | x :: l, acc, h => by
    obtain ⟨y, hy, hyx⟩ := h x List.mem_cons_self
    rw [firstByName, if_pos (List.any_eq_true.mpr ⟨y, hy, beq_iff_eq.mpr hyx⟩ : acc.any (·.name == x.name) = true)]
    exact firstByName_known l acc fun z hz => h z (List.mem_cons_of_mem _ hz)

theorem firstByName_first {f0 : File} {rest : List File} (hn : NamesNodup f0)
    (hsub : ∀ g ∈ rest, ∀ w ∈ g.vars, ∃ v ∈ f0.vars, v.name = w.name) :
    firstByName [] ((f0 :: rest).flatMap (·.vars)) = f0.vars := by
  rw [List.flatMap_cons, firstByName_append, firstByName_fresh _ [] (by rwa [List.nil_append]), List.nil_append]
  apply firstByName_known
  intro w hw
  obtain ⟨g, hg, hwg⟩ := List.mem_flatMap.mp hw
  exact hsub g hg w hwg

/-- shape of a concatenation of several pieces along axis `k`: the pieces' lengths add up -/
theorem concatAll_shape (k : Nat) (sh : List Nat) (hk : k < sh.length) :
    ∀ (parts : List (Arr Cell × Nat)), parts ≠ [] →
      (∀ p ∈ parts, hasShape (sh.set k p.2) p.1 = true) →
      hasShape (sh.set k ((parts.map (·.2)).foldl (· + ·) 0)) (concatAll k (parts.map (·.1))) = true := fun parts hne hp => by
  rw [concatAll_eq, ← List.sum_eq_foldl_nat]
  exact concatAllG_shape sh k hk parts hne hp

theorem stackVar_parts (n sd : String) : ∀ (fs : List File) (ws : List Var),
    fs.mapM (fun h => h.var? n) = some ws →
    ∃ parts : List (Arr Cell × Nat), parts.map (·.1) = ws.map (·.data) ∧
      parts.map (·.2) = fs.map (·.dimLen sd) ∧
      ∀ p ∈ parts, ∃ h ∈ fs, ∃ w, h.var? n = some w ∧ p = (w.data, h.dimLen sd)
  | [], ws, h => by
    obtain rfl : [] = ws := Option.some.inj h
    exact ⟨[], rfl, rfl, fun _ hp => absurd hp List.not_mem_nil⟩
  | g :: fs, ws, h => by
    rw [List.mapM_cons] at h
    obtain ⟨w, hg, h⟩ := Option.bind_eq_some_iff.mp h
    obtain ⟨ws', hl, h⟩ := Option.bind_eq_some_iff.mp h
    obtain rfl : w :: ws' = ws := Option.some.inj h
    obtain ⟨parts, h1, h2, h3⟩ := stackVar_parts n sd fs ws' hl
    refine ⟨(w.data, g.dimLen sd) :: parts, congrArg (w.data :: ·) h1, congrArg (g.dimLen sd :: ·) h2, ?_⟩
    refine List.forall_mem_cons.mpr ⟨⟨g, List.mem_cons_self, w, hg, rfl⟩, fun p hp => ?_⟩
    obtain ⟨h', hh', e⟩ := h3 p hp
    exact ⟨h', List.mem_cons_of_mem _ hh', e⟩

theorem stackVar_ok {fs : List File} {sd : String} {v v' : Var} (hs : stackVar fs sd v = .ok v') :
    (sd ∉ v.dims ∧ v' = v) ∨
    (sd ∈ v.dims ∧ ¬ (v.dims.filter (· == sd)).length > 1 ∧ ∃ ws, fs.mapM (fun h => h.var? v.name) = some ws ∧
      v' = { v with data := concatAll (v.dims.idxOf sd) (ws.map (·.data)) }) := by
  unfold stackVar at hs
  by_cases hm : sd ∈ v.dims
  · rw [if_neg (mt List.not_contains_eq_true.mp (not_not_intro hm))] at hs
    obtain ⟨hone, hs⟩ := Except.ok_of_ite hs
    split at hs
    · rename_i ws hws
      exact .inr ⟨hm, hone, ws, hws, (Except.ok.inj hs).symm⟩
    · cases hs
  · rw [if_pos (List.not_contains_eq_true.mpr hm)] at hs
    exact .inl ⟨hm, (Except.ok.inj hs).symm⟩

theorem stackVar_name {fs : List File} {sd : String} {v w : Var} (h : stackVar fs sd v = .ok w) : w.name = v.name := by
  obtain ⟨_, rfl⟩ | ⟨_, _, ws, _, rfl⟩ := stackVar_ok h <;> rfl

theorem stackVar_of_not_mem (fs : List File) {sd : String} (v : Var) (h : sd ∉ v.dims) : stackVar fs sd v = .ok v := by
  unfold stackVar
  rw [if_pos (List.not_contains_eq_true.mpr h)]

theorem stackVar_of_once {fs : List File} {sd : String} (v : Var) {ws : List Var}
    (h : (v.dims.filter (· == sd)).length = 1) (hws : fs.mapM (fun g => g.var? v.name) = some ws) :
    stackVar fs sd v = .ok { v with data := concatAll (v.dims.idxOf sd) (ws.map (·.data)) } := by
  unfold stackVar
  rw [if_neg fun hc => List.not_contains_eq_true.mp hc (List.mem_of_filter_length_eq_one h),
    if_neg (h ▸ Nat.lt_irrefl 1), hws]

theorem mem_sharedDims {fs : List File} {f0 : File} {sd : String} {d : Dim} :
    d ∈ sharedDims fs f0 sd ↔ d ∈ f0.dims ∧ d.name ≠ sd ∧ ∀ g ∈ fs, g.dimLen d.name = d.len := by
  simp only [sharedDims, List.mem_filter, bne_iff_ne, ne_eq, List.all_eq_true, beq_iff_eq, and_assoc]

theorem sharedDims_nodup (fs : List File) {f0 : File} (sd : String) (hn : DimsNodup f0) :
    ((sharedDims fs f0 sd).map (·.name)).Nodup := by
  unfold sharedDims
  exact hn.sublist ((List.filter_sublist.trans List.filter_sublist).map _)

def stackedDims (fs : List File) (f0 : File) (sd : String) : List Dim :=
  sharedDims fs f0 sd ++ [{ name := sd, len := (fs.map (·.dimLen sd)).foldl (· + ·) 0,
                            unlim := ((f0.dim? sd).map (·.unlim)).getD false }]

theorem stackFiles_eq_ok_iff {f0 : File} {rest : List File} {sd : String} {r : File} :
    stackFiles (f0 :: rest) sd = .ok r ↔
      (∀ d ∈ f0.dims, d.name ≠ sd → ∀ g ∈ f0 :: rest, (g.dim? d.name).isSome = true) ∧
      (∀ g ∈ f0 :: rest, ∀ d ∈ g.dims, d.name ≠ sd → ∃ e ∈ sharedDims (f0 :: rest) f0 sd, e.name = d.name) ∧
      (∀ g ∈ f0 :: rest, (g.dim? sd).isSome = true) ∧
      ∃ vars, (firstByName [] ((f0 :: rest).flatMap (·.vars))).mapM (stackVar (f0 :: rest) sd) = .ok vars ∧
        r = ⟨stackedDims (f0 :: rest) f0 sd, vars, f0.attrs⟩ := by
  -- the three guards of `stack`, as propositions
  have e1 : ¬ ((f0.dims.filter (fun d => d.name != sd)).any
      (fun d => (f0 :: rest).any (fun g => (g.dim? d.name).isNone))) = true ↔
      ∀ d ∈ f0.dims, d.name ≠ sd → ∀ g ∈ f0 :: rest, (g.dim? d.name).isSome = true := by
    simp only [Bool.not_eq_true, List.any_eq_false, List.mem_filter, bne_iff_ne, ne_eq, and_imp, Option.isNone_eq_false_iff]
  have e2 : ¬ ((f0 :: rest).any (fun g => g.dims.any (fun d => d.name != sd &&
      !((sharedDims (f0 :: rest) f0 sd).any (·.name == d.name))))) = true ↔
      ∀ g ∈ f0 :: rest, ∀ d ∈ g.dims, d.name ≠ sd → ∃ e ∈ sharedDims (f0 :: rest) f0 sd, e.name = d.name := by
    simp only [List.any_eq_true, not_exists, not_and, Bool.and_eq_true, bne_iff_ne, ne_eq, Bool.not_eq_true',
      Bool.not_eq_false, beq_iff_eq]
  have e3 : ¬ ((f0 :: rest).any (fun g => (g.dim? sd).isNone)) = true ↔ ∀ g ∈ f0 :: rest, (g.dim? sd).isSome = true := by
    simp only [Bool.not_eq_true, List.any_eq_false, Option.isNone_eq_false_iff]
  unfold stackFiles
  dsimp only
  rw [← e1, ← e2, ← e3]
  constructor
  · intro hs
    obtain ⟨c1, hs⟩ := Except.ok_of_ite hs
    obtain ⟨c2, hs⟩ := Except.ok_of_ite hs
    obtain ⟨c3, hs⟩ := Except.ok_of_ite hs
    split at hs
    · exact ⟨c1, c2, c3, _, ‹_›, (Except.ok.inj hs).symm⟩
    · cases hs
  · rintro ⟨c1, c2, c3, vars, hv, rfl⟩
    rw [if_neg c1, if_neg c2, if_neg c3, hv]
    rfl

theorem stack_ok {f0 : File} {rest : List File} {sd : String} {r : File} (hs : stackFiles (f0 :: rest) sd = .ok r) :
    ∃ vars, (firstByName [] ((f0 :: rest).flatMap (·.vars))).mapM (stackVar (f0 :: rest) sd) = .ok vars ∧
      r = ⟨stackedDims (f0 :: rest) f0 sd, vars, f0.attrs⟩ :=
  (stackFiles_eq_ok_iff.mp hs).2.2.2

theorem stack_dim_sd {fs : List File} {sd : String} {r : File} (hr : stackFiles fs sd = .ok r) :
    (r.dim? sd).isSome = true ∧ r.dimLen sd = (fs.map (·.dimLen sd)).sum := by
  cases fs with
  | nil => cases hr
  | cons f0 rest =>
    obtain ⟨vars, _, rfl⟩ := stack_ok hr
    rw [List.sum_eq_foldl_nat]
    refine hasDim_of_dim? (File.dim?_append_one (f := ⟨sharedDims (f0 :: rest) f0 sd, vars, f0.attrs⟩) (e := ⟨sd, _, _⟩) rfl
      (File.dim?_eq_none.mpr fun h => ?_))
    obtain ⟨x, hx, e⟩ := List.mem_map.mp h
    exact (mem_sharedDims.mp hx).2.1 e

theorem stack_dim_other {f0 : File} {rest : List File} {sd : String} {r : File} (hn : DimsNodup f0)
    (hr : stackFiles (f0 :: rest) sd = .ok r) {g : File} (hg : g ∈ f0 :: rest) {k : String} (hk : k ≠ sd)
    (hsome : (g.dim? k).isSome = true) :
    (r.dim? k).isSome = true ∧ ∀ h ∈ f0 :: rest, r.dimLen k = h.dimLen k := by
  obtain ⟨_, hshared, _, vars, _, rfl⟩ := stackFiles_eq_ok_iff.mp hr
  obtain ⟨d, hd⟩ := Option.isSome_iff_exists.mp hsome
  obtain ⟨hdm, rfl⟩ := File.dim?_mem hd
  obtain ⟨e, he, hen⟩ := hshared g hg d hdm hk
  -- `m`: the file with the shared dimensions only, before the stack dimension is put at the end
  let m : File := ⟨sharedDims (f0 :: rest) f0 sd, vars, f0.attrs⟩
  have hm : m.dim? e.name = some e := File.dim?_of_mem (f := m) (sharedDims_nodup _ sd hn) he
  obtain ⟨h1, h2⟩ := hasDim_of_dim? (File.dim?_append_old (g := ⟨stackedDims (f0 :: rest) f0 sd, vars, f0.attrs⟩) rfl hm)
  rw [hen] at h1 h2
  exact ⟨h1, fun h hh => by rw [h2, ← hen, (mem_sharedDims.mp he).2.2 h hh]⟩

theorem stack_dim_unlim {f0 : File} {rest : List File} {sd : String} {r : File} (hn : DimsNodup f0)
    (hr : stackFiles (f0 :: rest) sd = .ok r) {k : String} {d0 d : Dim} (h0 : f0.dim? k = some d0)
    (h : r.dim? k = some d) : d.unlim = d0.unlim := by
  obtain ⟨vars, _, rfl⟩ := stack_ok hr
  obtain ⟨hm, hk⟩ := File.dim?_mem h
  rcases List.mem_append.mp hm with hm | hm
  · -- a shared dimension is a dimension of `f0`
    rw [← hk, File.dim?_of_mem hn (mem_sharedDims.mp hm).1] at h0
    cases h0
    rfl
  · -- the stack dimension takes its flag from `f0`
    cases List.mem_singleton.mp hm
    cases hk
    rw [h0]
    rfl

end Props.C01
