import PncModel.Generated.ArlHeaders
import PncProofs.ArlLemmas
import PncProofs.ListLemmas

/-!
# C20 — ARL packed-bit: property theorems

Reading of the property over exact arithmetic (`ℚ`), scale `s = 2^(7-NEXP)`, one quantisation
step `= 1/s`:

* full statement (FALSE for the code as it is, see the counterexamples):
  `∀ f, rmax f * s < 128 → every element of unpack (bytes (pack f))` is within one step of `f`,
  no byte wraps;
* proved: the same with `rmax f * s ≤ 127` (all neighbour differences at most 127 steps), and then
  even within *half* a step; `unpack` inverts `pack` whenever no byte wrapped; first element exact;
  checksum is the byte sum modulo 255.
-/
namespace Props.C20
open Arl

/-- **C20 (partial).** If every neighbour difference (in packing order) is at most 127 steps, every
packed integer is a byte (no wrap-around) and every reconstructed element is within half a
quantisation step of the input. -/
theorem bound_partial (s : ℚ) (hs : 0 < s) (f : List (List ℚ))
    (hd : ∀ d ∈ fieldDiffs (var1 f) f, |d| * s ≤ 127) :
    List.Forall₂ (List.Forall₂ (ElemOK s)) f (pack s f) :=
  packRows_ok s hs f (var1 f) (var1 f) (by simp) hd

/-- **C20.** `unpack` inverts `pack` (returns the running reconstruction the packer tracked)
whenever no packed integer left the byte range. -/
theorem unpack_inverts (s : ℚ) (f : List (List ℚ))
    (h : ∀ row ∈ pack s f, ∀ p ∈ row, 0 ≤ p.1 ∧ p.1 ≤ 255) :
    unpack s (var1 f) (bytes (pack s f)) = recon (pack s f) := by
  rw [bytes_eq _ h]
  exact unpackRows_packRows s f (var1 f)

/-- **C20 (partial), end to end**: what the decoder returns is within half a step of the input. -/
theorem roundtrip_partial (s : ℚ) (hs : 0 < s) (f : List (List ℚ))
    (hd : ∀ d ∈ fieldDiffs (var1 f) f, |d| * s ≤ 127) :
    List.Forall₂ (List.Forall₂ (fun x u => |u - x| * s ≤ 1 / 2)) f
      (unpack s (var1 f) (bytes (pack s f))) := by
  have h := bound_partial s hs f hd
  have hb : ∀ row ∈ pack s f, ∀ p ∈ row, 0 ≤ p.1 ∧ p.1 ≤ 255 := fun row hr p hp => by
    obtain ⟨frow, _, hfr⟩ := List.forall₂_right_mem h row hr
    obtain ⟨x, _, hx⟩ := List.forall₂_right_mem hfr p hp
    exact hx.2
  rw [unpack_inverts s f hb]
  unfold recon
  rw [List.forall₂_map_right_iff]
  refine h.imp ?_
  intro row prow hrow
  rw [List.forall₂_map_right_iff]
  exact hrow.imp (fun _ _ h => h.1)

/-- **C20.** the first element is reproduced exactly (any field, any scale) -/
theorem first_exact (s : ℚ) (x : ℚ) (xs : List ℚ) (rest : List (List ℚ)) :
    (recon (pack s ((x :: xs) :: rest))).head?.bind List.head? = some x := by
  show some (packElem s x x).2 = some x
  rw [packElem_self]

/-- **C20.** the recorded checksum is the byte sum modulo 255 and lies in [0, 255) -/
theorem checksum (b : List (List ℤ)) :
    ksum b = (b.map List.sum).sum % 255 ∧ 0 ≤ ksum b ∧ ksum b < 255 := by
  unfold ksum
  exact ⟨rfl, Int.emod_nonneg _ (by decide), Int.emod_lt_of_pos _ (by decide)⟩

/-- The full statement ("within one step whenever the exponent rule `rmax·s < 128` holds") is
FALSE for the algorithm as coded: `INT()` truncates toward zero, so a scaled difference in
(-128.5, -127.5) is packed as byte 0 and the error is 5/4 of a step. Witness replayed on the real
code by the check (known finding C20/pack2d/negative-truncation). -/
theorem counterexample_trunc :
    let f : List (List ℚ) := [[0, 1 / 2, -509 / 4]]
    let s := scaleOf 7
    rmax f * s < 128 ∧ nexpOf (rmax f) = 7 ∧
    bytes (pack s f) = [[127, 128, 0]] ∧
    unpack s (var1 f) (bytes (pack s f)) = [[0, 1, -126]] ∧
    maxErrSteps s f (unpack s (var1 f) (bytes (pack s f))) = 5 / 4 := by
  decide +kernel

/-- ... and the accumulated error then drives the next packed integer to -1, which is stored as
byte 255: wrap-around, error 257 steps. -/
theorem counterexample_wrap :
    let f : List (List ℚ) := [[0, 1 / 2, -509 / 4, -255]]
    let s := scaleOf 7
    rmax f * s < 128 ∧ nexpOf (rmax f) = 7 ∧
    (pack s f).map (·.map (·.1)) = [[127, 128, 0, -1]] ∧
    bytes (pack s f) = [[127, 128, 0, 255]] ∧
    unpack s (var1 f) (bytes (pack s f)) = [[0, 1, -126, 2]] := by
  decide +kernel

/-- non-vacuity of `bound_partial`: a 2×3 field with differences up to 127 steps -/
example : let f : List (List ℚ) := [[0, 127, 64], [-100, 27, 27]]
    (0 : ℚ) < scaleOf 7 ∧ ∀ d ∈ fieldDiffs (var1 f) f, |d| * scaleOf 7 ≤ 127 := by
  decide +kernel

/-! ### file layout: fixed-length records -/

/-- data records of different (time, index) never overlap and lie inside the file: record `k` of period `t`
starts after the period's index record and ends before the next record starts -/
theorem layout_disjoint (ncell nrec nt t k : Nat) (hk : k < nrec) (ht : t < nt) :
    Arl.recOffset ncell nrec t k + Arl.recl ncell ≤ Arl.fileBytes ncell nt nrec ∧
    (t * (1 + nrec)) * Arl.recl ncell + Arl.recl ncell ≤ Arl.recOffset ncell nrec t k ∧
    (k + 1 < nrec → Arl.recOffset ncell nrec t k + Arl.recl ncell = Arl.recOffset ncell nrec t (k + 1)) := by
  unfold Arl.recOffset Arl.fileBytes
  generalize Arl.recl ncell = L
  refine ⟨?_, ?_, ?_⟩
  · have h1 : t * (1 + nrec) + 1 + k < nt * (1 + nrec) := by
      rw [Nat.add_assoc]
      exact Nat.mul_add_lt ht (Nat.add_lt_add_left hk 1)
    exact (Nat.mul_add_le_mul L h1).trans_eq (Nat.mul_assoc _ _ _)
  · exact Nat.mul_add_le_mul L (Nat.lt_of_lt_of_le (Nat.lt_succ_self _) (Nat.le_add_right _ k))
  · exact fun _ => (Nat.succ_mul _ L).symm

/-- the size of a file is the number of its records times the record length -/
theorem layout_size (ncell nt nrec : Nat) :
    Arl.fileBytes ncell nt nrec = (nt * (1 + nrec)) * (50 + ncell) := by
  unfold Arl.fileBytes Arl.recl
  rw [Nat.mul_assoc]

/-- **tie to the source** (regenerated from `thdtype` / `vhdtype` of noaafiles/_arl.py on every run): the label in front
of every record is 50 bytes (10 + 2 + 2 + 4 + 4 + 14 + 14), label and fixed header of the index record are 158, and the
model's record length is label + one byte per cell -/
theorem label_matches_source :
    Generated.arlLabelBytes = some 50 ∧ Generated.arlIndexBytes = some 158 ∧ Generated.arlLabelWidths = [10, 2, 2, 4, 4, 14, 14] ∧
    ∀ n, Arl.recl n = Generated.arlLabelBytes.getD 0 + n := by
  exact ⟨by decide, by decide, by decide, fun _ => rfl⟩

/-- **the scale is representable**: the exponent `pack2d` records is at least -120, so the scale `2^(7 - NEXP)` never
exceeds `2^127`, the largest power of two a float32 holds (below that the bytes were all zero: repaired, see
known_findings) -/
theorem nexp_floor (r : ℚ) : -120 ≤ nexpOf r := by
  unfold nexpOf
  split
  · decide
  · exact le_max_right _ _

theorem scale_le (r : ℚ) : scaleOf (nexpOf r) ≤ (2 : ℚ) ^ 127 := by
  have h := nexp_floor r
  unfold scaleOf pow2
  split_ifs with hpos
  · exact pow_le_pow_right₀ (by norm_num) (by omega)
  · exact ((div_le_one (by positivity)).mpr (one_le_pow₀ (by norm_num))).trans (one_le_pow₀ (by norm_num))

theorem scale_finite (r : ℚ) : scaleOf (nexpOf r) ≤ (2 : ℚ) ^ 127 ∨ 7 - nexpOf r < 0 :=
  Or.inl (scale_le r)

/-- non-vacuity: a difference of `2^-122` (a nearly constant field of magnitude 1e-30) gets the exponent -120, not -121 -/
example : nexpOf (1 / (2 : ℚ) ^ 122) = -120 ∧ nexpOf (1 / (2 : ℚ) ^ 100) = -99 := by
  decide +kernel

end Props.C20
