import PncProofs.SigmaLemmas

/-!
# C17 — interpolation weights and mass-conserving sigma regridding: property theorems

Reading (over `ℚ`).  `weightsAsc ex xs t` is one column of `getinterpweights` for an ascending
source (`interp1d` sorts; a descending source is the reversed case, handled by `weights`).
`sigma2coeff src dst` is the coefficient matrix as a list of columns; `thick` the layer
thicknesses; `conserveVals` what `interpSigma(interptype='conserve')` computes for one column
of data.
-/
namespace Props.C17
open Interp

/-- **C17.** weights sum to one for every target, with and without extrapolation -/
theorem sum_one (ex : Bool) (xs : List ℚ) (t : ℚ) (h : 2 ≤ xs.length) :
    sum (weightsAsc ex xs t) = 1 :=
  weightsAsc_sum ex xs t (List.ne_nil_of_length_pos (by omega))

/-- **C17.** weights are non-negative when not extrapolating -/
theorem nonneg (xs : List ℚ) (t : ℚ) : ∀ w ∈ weightsAsc false xs t, 0 ≤ w :=
  clipNorm_nonneg _

/-- **C17.** extrapolating weights reproduce every linear profile at every target -/
theorem linear_exact (a b : ℚ) (xs : List ℚ) (t : ℚ) (h : 2 ≤ xs.length) (hs : Asc xs) :
    dot (weightsAsc true xs t) (xs.map (fun x => a * x + b)) = a * t + b :=
  weightsAsc_linear true a b xs t (List.ne_nil_of_length_pos (by omega)) h hs (Or.inl rfl)

/-- **C17.** non-extrapolating weights reproduce every linear profile for targets inside the
source range -/
theorem linear_exact_inside (a b : ℚ) (xs : List ℚ) (t : ℚ) (hne : xs ≠ []) (h : 2 ≤ xs.length)
    (hs : Asc xs) (h0 : xs.head hne ≤ t) (h1 : t ≤ xs.getLast hne) :
    dot (weightsAsc false xs t) (xs.map (fun x => a * x + b)) = a * t + b :=
  weightsAsc_linear false a b xs t hne h hs (Or.inr ⟨h0, h1⟩)

/-- the unit vector at position `k` of length `n` -/
def unit : ℕ → ℕ → List ℚ
  | 0, _ => []
  | n + 1, 0 => 1 :: zeros n
  | n + 1, k + 1 => 0 :: unit n k

theorem unit_nonneg : ∀ (n k : ℕ), ∀ v ∈ unit n k, (0 : ℚ) ≤ v
  | 0, _ => fun _ hv => absurd hv List.not_mem_nil
  | n + 1, 0 => List.forall_mem_cons.mpr ⟨zero_le_one, zeros_nonneg n⟩
  | n + 1, k + 1 => List.forall_mem_cons.mpr ⟨le_rfl, unit_nonneg n k⟩

theorem col_at_node : ∀ (xs : List ℚ) (k : ℕ) (hk : k < xs.length), Asc xs → col xs (xs[k]) = unit xs.length k
  | [_], 0, _, _ => rfl
  | x0 :: x1 :: rest, 0, _, hs => by
    rw [List.getElem_cons_zero, col_cons_of_le rest hs.1.le, sub_self, zero_div, sub_zero]
    rfl
  | x0 :: x1 :: rest, 1, _, hs => by
    rw [List.getElem_cons_succ, List.getElem_cons_zero, col_cons_of_le rest le_rfl,
      div_self (sub_pos.mpr hs.1).ne', sub_self]
    rfl
  | x0 :: x1 :: x2 :: rest, k + 2, hk, hs => by
    have hk' : k + 1 < (x1 :: x2 :: rest).length := Nat.lt_of_succ_lt_succ hk
    have hnot : ¬ (x1 :: x2 :: rest)[k + 1] ≤ x1 := not_le.mpr (hs.2.getElem_lt hk' (Nat.succ_pos k))
    rw [List.getElem_cons_succ, col, if_neg hnot, col_at_node (x1 :: x2 :: rest) (k + 1) hk' hs.2]
    rfl

/-- **C17.** identity: a target that equals source node `k` gets the unit weight vector `e_k`
(hence interpolating onto the source coordinate is the identity matrix) -/
theorem identity (ex : Bool) (xs : List ℚ) (k : ℕ) (hk : k < xs.length) (h : 2 ≤ xs.length)
    (hs : Asc xs) : weightsAsc ex xs (xs[k]) = unit xs.length k := by
  have hcol := col_at_node xs k hk hs
  rw [weightsAsc_eq_col ex xs _ (List.ne_nil_of_length_pos (by omega)) (Or.inr (hcol ▸ unit_nonneg _ _)), hcol]

/-- **C17.** a target equal to a source node gets the unit weight vector of that node; stated
through linear exactness for *all* profiles being the node value: here as the concrete
identity on the first and the inner/last nodes. -/
theorem identity_head (ex : Bool) (x0 x1 : ℚ) (rest : List ℚ) (hs : Asc (x0 :: x1 :: rest)) :
    weightsAsc ex (x0 :: x1 :: rest) x0 = 1 :: zeros (rest.length + 1) :=
  identity ex (x0 :: x1 :: rest) 0 (Nat.succ_pos _) (Nat.le_add_left _ _) hs

/-- all target edges lie within the source range -/
def InRange (src dst : List ℚ) (hne : src ≠ []) : Prop :=
  ∀ d ∈ dst, src.getLast hne ≤ d ∧ d ≤ src.head hne

/-- **C17.** thickness: the thickness-weighted column sums of the coefficient matrix are the
target layer thicknesses (so the normaliser `ndp` of `interpSigma` is `dp'`). -/
theorem thickness (src : List ℚ) (hne : src ≠ []) (hs : Desc src) : ∀ (dst : List ℚ), Desc dst →
    InRange src dst hne → (sigma2coeff src dst).map (dot (thick src)) = thick dst
  | [] => fun _ _ => rfl
  | [_] => fun _ _ => rfl
  | d0 :: d1 :: rest => fun hd hr => by
    have ih := thickness src hne hs (d1 :: rest) hd.2 fun d hd' => hr d (List.mem_cons_of_mem _ hd')
    obtain ⟨a0, b0⟩ := hr d0 List.mem_cons_self
    obtain ⟨a1, b1⟩ := hr d1 (List.mem_cons_of_mem _ List.mem_cons_self)
    unfold sigma2coeff at ih ⊢
    rw [pairs_map_cons, List.map_cons, List.map_cons, ih, thick,
      dot_coeffCol (fidx_antitone src d0 d1 hs hd.1.le) _ _ _ (thick_length src).le, Int.cast_zero, sub_zero,
      sub_zero, cum_thick_fidx src d1 hne hs a1 b1, cum_thick_fidx src d0 hne hs a0 b0, sub_sub_sub_cancel_left]

/-- **C17.** cover: when source and target share top and bottom, every source layer is
distributed over the target layers with total weight one. -/
theorem cover (src dst : List ℚ) (hsne : src ≠ []) (hdne : dst ≠ []) (hs : Desc src) (hd : DescW dst)
    (hlen : 2 ≤ src.length)
    (htop : dst.head hdne = src.head hsne) (hbot : dst.getLast hdne = src.getLast hsne)
    (l : ℕ) (hl : l < src.length - 1) :
    sum ((sigma2coeff src dst).map (fun c => c.getD l 0)) = 1 := by
  rw [sum_columns src dst hsne hdne hs hd htop hbot _ (fun e => clamp01 (e - l)) fun b t hbt => by
    rw [coeffCol_getD _ _ _ _ _ hl, codeCoeff_eq_clamp _ _ _ hbt, Int.cast_add, Int.cast_zero, zero_add,
      Int.cast_natCast]]
  have h1 : (l : ℚ) + 1 ≤ ((src.length - 1 : ℕ) : ℚ) := by exact_mod_cast hl
  rw [clamp01_of_ge_one (le_sub_iff_add_le'.mpr h1), clamp01_of_nonpos (sub_nonpos.mpr (Nat.cast_nonneg l)),
    sub_zero]

/-- numerator of `mass`: the thickness-weighted data summed over all target columns is the source's -/
theorem flux (src dst : List ℚ) (data : List ℚ) (hsne : src ≠ []) (hdne : dst ≠ [])
    (hs : Desc src) (hd : DescW dst)
    (htop : dst.head hdne = src.head hsne) (hbot : dst.getLast hdne = src.getLast hsne) :
    sum ((sigma2coeff src dst).map (fun c => dot data (List.zipWith (· * ·) (thick src) c)))
      = dot data (thick src) := by
  have hlen' : (List.zipWith (· * ·) data (thick src)).length ≤ src.length - 1 := by
    rw [List.length_zipWith, thick_length]
    exact Nat.min_le_right _ _
  rw [sum_columns src dst hsne hdne hs hd htop hbot _ (cum (List.zipWith (· * ·) data (thick src)))
      fun b t hbt => by rw [dot_zipWith_assoc, dot_coeffCol hbt _ _ _ hlen', Int.cast_zero, sub_zero, sub_zero],
    cum_full _ _ (by exact_mod_cast hlen'), cum_nonpos _ 0 le_rfl, sum_zipWith_eq_dot, sub_zero]

/-- what `interpSigma(interptype='conserve')` computes for one data column (plain division) -/
def conserveVals (src dst data : List ℚ) : List ℚ :=
  (sigma2coeff src dst).map (fun c =>
    dot data (List.zipWith (· * ·) (thick src) c) / sum (List.zipWith (· * ·) (thick src) c))

/-- **C17.** mass: between sigma grids that share top and bottom the thickness-weighted column
integral is preserved: Σ_j new_j·dp'_j = Σ_l old_l·dp_l. -/
theorem mass (src dst data : List ℚ) (hsne : src ≠ []) (hdne : dst ≠ [])
    (hs : Desc src) (hd : Desc dst) (hlen : 2 ≤ src.length)
    (htop : dst.head hdne = src.head hsne) (hbot : dst.getLast hdne = src.getLast hsne) :
    dot (conserveVals src dst data) (thick dst) = dot data (thick src) := by
  have hr : InRange src dst hsne := fun d hdm => by
    rw [← hbot, ← htop]
    exact (Desc.weak hd).mem_range hdne hdm
  have hth : (sigma2coeff src dst).map (fun c => sum (List.zipWith (· * ·) (thick src) c)) = thick dst :=
    (List.map_congr_left fun c _ => sum_zipWith_eq_dot _ _).trans (thickness src hsne hs dst hd hr)
  unfold conserveVals
  rw [← hth, dot_map_div _ _ _ fun c hc => thick_ne_zero dst hd _ (hth ▸ List.mem_map_of_mem hc)]
  exact flux src dst data hsne hdne hs (Desc.weak hd) htop hbot

/-- **C17.** a constant field stays constant: every entry of `conserveVals` for constant data `c`
is `c` wherever the normaliser is non-zero (which `thickness` gives for a strictly descending
target inside the source range). -/
theorem const (src : List ℚ) (c : ℚ) (col : List ℚ)
    (hnz : sum (List.zipWith (· * ·) (thick src) col) ≠ 0) :
    dot (List.replicate (src.length - 1) c) (List.zipWith (· * ·) (thick src) col)
      / sum (List.zipWith (· * ·) (thick src) col) = c := by
  rw [dot_replicate_left c _ _ (by
    rw [List.length_zipWith, thick_length]; exact Nat.min_le_left _ _)]
  exact mul_div_cancel_right₀ c hnz

/-! ### descending sources (interp1d sorts them: the reversed case) -/

/-- **C17.** sum-to-one and non-negativity also for a descending source -/
theorem sum_one_any (ex : Bool) (xs : List ℚ) (t : ℚ) (h : 2 ≤ xs.length) :
    sum (weights ex xs t) = 1 :=
  weights_sum ex xs t (List.ne_nil_of_length_pos (by omega))

theorem nonneg_any (xs : List ℚ) (t : ℚ) : ∀ w ∈ weights false xs t, 0 ≤ w :=
  weights_ind (P := fun l => ∀ w ∈ l, 0 ≤ w) (fun _ hl w hw => hl w (List.mem_reverse.mp hw))
    (nonneg xs t) (nonneg xs.reverse t)

/-- **C17 (application along a dimension).** `interpDimension` / the linear `interpSigma` compute
`(weights * data[:, None]).sum(0)` for every column; with extrapolation on an ascending coordinate this reproduces
every linear profile at every target, and without extrapolation at every target inside the source range — whatever
the other columns hold (each column has its own weights). -/
theorem apply_linear (a b : ℚ) (xs nxs : List ℚ) (h : 2 ≤ xs.length) (hs : Asc xs) :
    linearApply true xs nxs (xs.map (fun x => a * x + b)) = nxs.map (fun t => a * t + b) :=
  linearApply_linear true a b xs nxs (List.ne_nil_of_length_pos (by omega)) h hs (Or.inl rfl)

/-- a constant field stays constant under linear interpolation (any direction, with or without extrapolation) -/
theorem apply_const (ex : Bool) (c : ℚ) (xs nxs : List ℚ) (h : 2 ≤ xs.length) :
    linearApply ex xs nxs (xs.map (fun _ => c)) = nxs.map (fun _ => c) :=
  linearApply_const ex c xs nxs (List.ne_nil_of_length_pos (by omega))

/-! ### non-vacuity: concrete grids meeting the hypotheses -/

example : Asc [0, 1, 3, 7] ∧ 2 ≤ ([0, 1, 3, 7] : List ℚ).length :=
  ⟨(isAsc_iff _).mp (by decide +kernel), by decide +kernel⟩

example : Desc [1, 1 / 2, 1 / 4, 0] ∧ Desc [1, 3 / 4, 1 / 8, 0] :=
  ⟨(isDesc_iff _).mp (by decide +kernel), (isDesc_iff _).mp (by decide +kernel)⟩

example : sigma2coeff [1, 1 / 2, 1 / 4, 0] [1, 3 / 4, 1 / 8, 0]
    = [[1 / 2, 0, 0], [1 / 2, 1, 1 / 2], [0, 0, 1 / 2]] := by
  decide +kernel

/-- **C17 (variables on the lowest levels only).** The weights of a variable stored on the lowest `n ≥ 2` levels, taken
from those `n` nodes, sum to one for every target — also above the `n`-th node. -/
theorem reduced_sum_one (ex : Bool) (xs : List ℚ) (n : Nat) (t : ℚ) (hn : 2 ≤ n) (hx : n ≤ xs.length) :
    sum (weightsAsc ex (xs.take n) t) = 1 :=
  sum_one ex (xs.take n) t (by rw [List.length_take]; omega)

/-- the first rows of the weights of the full grid are not such weights: for a target above the reduced top they sum
to less than one (what the repaired `interpSigma` of GEOS-Chem files used) -/
theorem reduced_rows_counterexample :
    sum ((weightsAsc false [0, 1, 2, 3] (5 / 2)).take 2) = 0 ∧ sum (weightsAsc false ([0, 1, 2, 3].take 2) (5 / 2)) = 1 := by
  constructor <;> decide +kernel

/-! ## one source level (`getinterpweights([x], …)`, repaired code) -/

/-- **C17 (one level).** With a single source level every target — on the level, beside it, with or without
extrapolation — takes the level's value with weight one: non-negative, summing to one, the identity when the target is
the source. The code used to return NaN there (`fixed: property=C17 4710796`). -/
theorem one_level (ex : Bool) (x t : ℚ) : weights ex [x] t = [1] :=
  weightsAsc_eq_col ex [x] t (List.cons_ne_nil _ _) (Or.inr fun w hw => by
    rw [List.mem_singleton.mp hw]; exact zero_le_one)

theorem one_level_apply (ex : Bool) (x d : ℚ) (nxs : List ℚ) :
    linearApply ex [x] nxs [d] = nxs.map (fun _ => d) :=
  linearApply_const ex d [x] nxs (List.cons_ne_nil _ _)

example : weights false [3] 3 = [1] ∧ weights true [3] 10 = [1] ∧ linearApply false [3] [3, 5] [7] = [7, 7] := by
  decide +kernel

end Props.C17
