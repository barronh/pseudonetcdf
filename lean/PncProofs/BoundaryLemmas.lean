import PncProofs.CamxLemmas

/-! The lateral-boundary format (`PncModel/Camx/BoundaryRead.lean`): the memory-mapped reader undoes the encoder, and
what it does on every prefix of a file. -/
namespace Boundary
open Words

def stepRecs (s : BStep) : List (List Word) := s.hdr :: s.recs

theorem stepOf_stepRecs (s : BStep) : stepOf (stepRecs s) = s := by
  cases s
  rfl

theorem records_eq (f : BFile) : records f = f.headers ++ f.defs ++ (f.steps.map stepRecs).flatten := rfl

def stepBlocks (steps : List BStep) : List (List Word) := steps.map fun s => encodeRecs (stepRecs s)

theorem encode_eq (f : BFile) :
    encode f = encodeRecs f.headers ++ (encodeRecs f.defs ++ (stepBlocks f.steps).flatten) := by
  rw [encode, records_eq, encodeRecs_append, encodeRecs_append, encodeRecs_flatten, List.map_map, List.append_assoc]
  rfl

theorem stepBlocks_uniform {sizes : List Nat} {steps : List BStep}
    (h : ∀ s ∈ steps, (stepRecs s).map List.length = sizes) : ∀ b ∈ stepBlocks steps, b.length = framedLen sizes :=
  List.forall_mem_map.mpr fun s hs => by rw [← h s hs, framedLen_encode]

theorem cutSteps_stepBlocks (sizes : List Nat) (steps : List BStep)
    (h : ∀ s ∈ steps, (stepRecs s).map List.length = sizes) :
    cutSteps sizes steps.length (stepBlocks steps).flatten = steps := by
  induction steps with
  | nil => rfl
  | cons s rest ih =>
    have hs := h s List.mem_cons_self
    simp only [List.length_cons, cutSteps, stepBlocks, List.map_cons, List.flatten_cons]
    rw [← hs, cutRecs_encode, stepOf_stepRecs, hs]
    exact congrArg _ (ih fun x hx => h x (List.mem_cons_of_mem _ hx))

/-- what a file must hold for the reader: the four header records with the counts where the reader looks for them,
four definition records of the sizes the grid gives, at least one time step, every step with a four-word time
record and four records per species of the sizes the grid gives -/
structure WFb (nspec nx ny nz : Nat) (f : BFile) : Prop where
  hdrs : ∃ h0 h1 h2 h3, f.headers = [h0, h1, h2, h3] ∧ h0.length = 76 ∧ h1.length = 15 ∧ h2.length = 4 ∧
    h3.length = 10 * nspec ∧ h0.getD 71 0 = nspec ∧ h1.getD 7 0 = nx ∧ h1.getD 8 0 = ny ∧ layers (h1.getD 9 0) = nz ∧
    projOk (h1.getD 10 0) (h1.getD 1 0) = true
  counts : 1 ≤ nspec ∧ nspec < 2147483648 ∧ 1 ≤ nx ∧ nx < 2147483648 ∧ 1 ≤ ny ∧ ny < 2147483648
  defs : f.defs.map List.length = defSizes nx ny
  nonempty : f.steps ≠ []
  steps : ∀ s ∈ f.steps, (stepRecs s).map List.length = stepSizes nspec nx ny nz

theorem framedLen_pos (nspec nx ny nz : Nat) : 0 < framedLen (stepSizes nspec nx ny nz) :=
  -- a step starts with the four-word time record: `framedLen (4 :: _) = (4 + 2) + _`
  Nat.add_pos_left (Nat.succ_pos 5) _

section
variable {nspec nx ny nz : Nat} {f : BFile}

theorem WFb.hdrLens (w : WFb nspec nx ny nz f) : f.headers.map List.length = hdrSizes nspec := by
  obtain ⟨h0, h1, h2, h3, hh, l0, l1, l2, l3, _⟩ := w.hdrs
  simp [hh, hdrSizes, l0, l1, l2, l3]

theorem WFb.fields (w : WFb nspec nx ny nz f) :
    (encode f).getD 72 0 = nspec ∧ (encode f).getD 86 0 = nx ∧ (encode f).getD 87 0 = ny ∧
    layers ((encode f).getD 88 0) = nz ∧ projOk ((encode f).getD 89 0) ((encode f).getD 80 0) = true := by
  have hcut := cutRecs_encode f.headers (encodeRecs f.defs ++ (stepBlocks f.steps).flatten)
  rw [encode_eq]
  rw [w.hdrLens] at hcut
  obtain ⟨h0, h1, h2, h3, hh, -, -, -, -, e0, e1, e2, e3, e4⟩ := w.hdrs
  rw [hh] at hcut ⊢
  obtain ⟨s0, s1, -⟩ := hdr_slices hcut
  rw [List.getD_of_slice s0 (i := 71) (by decide), List.getD_of_slice s1 (i := 7) (by decide),
    List.getD_of_slice s1 (i := 8) (by decide), List.getD_of_slice s1 (i := 9) (by decide),
    List.getD_of_slice s1 (i := 10) (by decide), List.getD_of_slice s1 (i := 1) (by decide)]
  exact ⟨e0, e1, e2, e3, e4⟩

theorem WFb.encode_length (w : WFb nspec nx ny nz f) :
    (encode f).length = framedLen (hdrSizes nspec) + framedLen (defSizes nx ny) +
      f.steps.length * framedLen (stepSizes nspec nx ny nz) := by
  rw [encode_eq, List.length_append, List.length_append, List.length_flatten_uniform (stepBlocks_uniform w.steps),
    ← w.hdrLens, ← w.defs, framedLen_encode, framedLen_encode, stepBlocks, List.length_map, Nat.add_assoc]

end

theorem read_encode (nspec nx ny nz : Nat) (f : BFile) (w : WFb nspec nx ny nz f) : read (encode f) = some f := by
  have hlen := w.encode_length
  obtain ⟨g72, g86, g87, g88, gp⟩ := w.fields
  have hst : 0 < f.steps.length := List.length_pos_iff.mpr w.nonempty
  have hpos := framedLen_pos nspec nx ny nz
  unfold read
  simp only [g72, g86, g87, g88, gp, w.counts, and_self, not_true_eq_false, if_false, hlen]
  rw [if_neg (Nat.not_lt.mpr (Nat.le_add_right _ _)), Nat.add_sub_cancel_left, Nat.mul_mod_left,
    Nat.mul_div_cancel _ hpos, encode_eq, ← w.hdrLens, cutRecs_encode, ← w.defs]
  simp only [markersOk_encode, cutRecs_encode, not_true_eq_false, if_false, ne_eq, false_or]
  rw [if_neg (Nat.ne_of_gt hst), cutSteps_stepBlocks _ f.steps w.steps]

/-! ### prefixes of a lateral-boundary file -/

/-- 149: the header and definition records when every count is 1 -/
theorem framedLen_hdrs_defs {nspec nx ny : Nat} (hs : 1 ≤ nspec) (hx : 1 ≤ nx) (hy : 1 ≤ ny) :
    149 ≤ framedLen (hdrSizes nspec) + framedLen (defSizes nx ny) := by
  simp only [hdrSizes, defSizes, framedLen]
  omega

theorem read_accepts {ws : List Word} {g : BFile} (h : read ws = some g) :
    149 ≤ ws.length ∧ ∃ k, 1 ≤ k ∧ ws.length =
      framedLen (hdrSizes (ws.getD 72 0)) + framedLen (defSizes (ws.getD 86 0) (ws.getD 87 0)) +
        k * framedLen (stepSizes (ws.getD 72 0) (ws.getD 86 0) (ws.getD 87 0) (layers (ws.getD 88 0))) := by
  unfold read at h
  simp only at h
  obtain ⟨hc, h⟩ := Option.ite_none_left_eq_some.mp h
  obtain ⟨-, h⟩ := Option.ite_none_left_eq_some.mp h
  obtain ⟨hoff, h⟩ := Option.ite_none_left_eq_some.mp h
  obtain ⟨-, h⟩ := Option.ite_none_left_eq_some.mp h
  obtain ⟨hblk, -⟩ := Option.ite_none_left_eq_some.mp h
  obtain ⟨a1, -, a3, -, a5, -⟩ := Classical.not_not.mp hc
  have hoff' := Nat.le_of_not_lt hoff
  refine ⟨Nat.le_trans (framedLen_hdrs_defs a1 a3 a5) hoff', _, Nat.pos_of_ne_zero fun h0 => hblk (Or.inr h0), ?_⟩
  rw [Nat.add_comm, ← Nat.sub_eq_iff_eq_add hoff']
  exact (Nat.div_mul_cancel (Nat.dvd_of_mod_eq_zero (Classical.not_not.mp fun hm => hblk (Or.inl hm)))).symm

section
variable {nspec nx ny nz : Nat} {f : BFile}

theorem WFb.take (w : WFb nspec nx ny nz f) {k : Nat} (hk : 1 ≤ k) : WFb nspec nx ny nz { f with steps := f.steps.take k } :=
  ⟨w.hdrs, w.counts, w.defs,
    fun hnil => (List.take_eq_nil_iff.mp hnil).elim (fun h0 => by omega) w.nonempty,
    fun s hs => w.steps s (List.mem_of_mem_take hs)⟩

theorem WFb.take_encode (w : WFb nspec nx ny nz f) (k : Nat) :
    (encode f).take (framedLen (hdrSizes nspec) + framedLen (defSizes nx ny) + k * framedLen (stepSizes nspec nx ny nz)) =
      encode { f with steps := f.steps.take k } := by
  rw [encode_eq, encode_eq, ← w.hdrLens, ← w.defs, framedLen_encode, framedLen_encode, Nat.add_assoc,
    List.take_length_add_append, List.take_length_add_append,
    List.take_flatten_uniform (stepBlocks_uniform w.steps), stepBlocks, stepBlocks, List.map_take]

end

theorem read_prefix (nspec nx ny nz : Nat) (f : BFile) (w : WFb nspec nx ny nz f) (n : Nat) :
    read ((encode f).take n) = none ∨
    ∃ k, 1 ≤ k ∧ k ≤ f.steps.length ∧ (encode f).take n = encode { f with steps := f.steps.take k } ∧
      read ((encode f).take n) = some { f with steps := f.steps.take k } := by
  obtain ⟨g72, g86, g87, g88, -⟩ := w.fields
  refine List.prefix_cases (read := read) (framedLen_pos nspec nx ny nz) w.encode_length w.take_encode
    (fun k hk _ => read_encode nspec nx ny nz _ (w.take hk)) (fun n hn g hr => ?_) n
  -- an accepted prefix holds the counts of the file, so its length is that of whole steps of the file
  obtain ⟨h149, k, hk, hlen⟩ := read_accepts hr
  rw [List.length_take, Nat.min_eq_left hn] at h149 hlen
  have hin : ∀ {i}, i < 149 → i < n := fun hi => Nat.lt_of_lt_of_le hi h149
  rw [List.getD_take (hin (by decide)), List.getD_take (hin (by decide)), List.getD_take (hin (by decide)),
    List.getD_take (hin (by decide)), g72, g86, g87, g88] at hlen
  exact ⟨k, hk, hlen⟩

end Boundary
