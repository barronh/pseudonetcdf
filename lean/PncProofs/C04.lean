import PncProofs.ArrLemmas
import PncModel.File
-- fixes which `Zero ℕ` the `List.sum`s in the statements elaborate to (Mathlib's, as wherever a Mathlib tactic is imported)
import Mathlib.Algebra.GroupWithZero.Nat

/-!
# C04 — stacking concatenates in order and inverts splitting: the arrays

`Arr.concat k` is concatenation along axis `k`; a window `[lo, lo + n)` along axis `k` is
`Arr.atAxis (fun xs => (xs.drop lo).take n) k`, which is what the orthogonal selection `windowSels` of `sliceDimensions`
computes (`orth_window`).  `PFile.concatAll` is what the model of `stack` applies to the variables that have the stack
dimension.  Two general facts carry the file: the windows of a partition, concatenated, are the array, and the window of
a concatenation at the extent of a piece is the piece; the two-piece statements are their instances.
-/
namespace Props.C04
open Arr PFile

variable {α : Type}

/-- the array is a node at every position down to depth `k` (it has an axis `k`) -/
def HasAxis : Nat → Arr α → Prop
  | _, .leaf _ => False
  | 0, .node _ => True
  | k + 1, .node xs => ∀ x ∈ xs, HasAxis k x

theorem concat_cut (n k : Nat) (a : Arr α) : concat k (atAxis (List.take n) k a) (atAxis (List.drop n) k a) = a := by
  rw [concat_atAxis_append]
  simp only [List.take_append_drop]
  exact atAxis_id k a

/-- **two-piece inverse**: cutting at `n` along axis `k` and concatenating gives the array back -/
theorem concat_take_drop (n : Nat) : ∀ (k : Nat) (a : Arr α), HasAxis k a →
    concat k (atAxis (List.take n) k a) (atAxis (List.drop n) k a) = a := fun k a _ => concat_cut n k a

/-- consecutive pieces cut at the given (relative) piece lengths -/
def splitAll (k : Nat) : List Nat → Arr α → List (Arr α)
  | [], a => [a]
  | n :: rest, a => atAxis (List.take n) k a :: splitAll k rest (atAxis (List.drop n) k a)

/-- `PFile.concatAll` for any type of cell (`concatAll_eq`) -/
def concatAllG (k : Nat) : List (Arr α) → Arr α
  | [] => .node []
  | [a] => a
  | a :: b :: rest => concat k a (concatAllG k (b :: rest))

theorem concatAll_eq (k : Nat) (l : List (Arr Cell)) : concatAll k l = concatAllG k l := by
  induction l with
  | nil => rfl
  | cons a l ih =>
    cases l with
    | nil => rfl
    | cons b rest => simp only [concatAll, concatAllG, ih]

theorem concatAllG_cons (k : Nat) (a : Arr α) {l : List (Arr α)} (h : l ≠ []) :
    concatAllG k (a :: l) = concat k a (concatAllG k l) := by
  cases l with
  | nil => exact absurd rfl h
  | cons b rest => rfl

theorem splitAll_ne_nil (k : Nat) (lens : List Nat) (a : Arr α) : splitAll k lens a ≠ [] := by
  cases lens <;> simp [splitAll]

theorem concatAllG_splitAll (k : Nat) : ∀ (lens : List Nat) (a : Arr α), concatAllG k (splitAll k lens a) = a
  | [], _ => rfl
  | n :: rest, a => by
    rw [splitAll, concatAllG_cons k _ (splitAll_ne_nil k rest _), concatAllG_splitAll k rest, concat_cut]

/-- **C04 (any partition).** Splitting an array into any number of consecutive pieces along
axis `k` (any piece lengths) and concatenating the pieces in order reproduces the array. -/
theorem concat_split_all (k : Nat) : ∀ (lens : List Nat) (a : Arr α), HasAxis k a →
    concatAllG k (splitAll k lens a) = a := fun lens a _ => concatAllG_splitAll k lens a

/-- non-vacuity: a 2×3 array cut along axis 1 into pieces of length 1 and 2 -/
example : let a : Arr Nat := .node [.node [.leaf 1, .leaf 2, .leaf 3], .node [.leaf 4, .leaf 5, .leaf 6]]
    HasAxis 1 a ∧ (splitAll 1 [1] a).length = 2 ∧ flatten (concatAllG 1 (splitAll 1 [1] a)) = [1, 2, 3, 4, 5, 6] := by
  refine ⟨?_, ?_⟩
  · simp [HasAxis]
  · decide +kernel

/-- arrays `a`, `b` agree in every axis but `k`, where `a` has length `n` -/
def Compat : Nat → Nat → Arr α → Arr α → Prop
  | 0, n, .node xs, .node _ => xs.length = n
  | k + 1, n, .node xs, .node ys => List.Forall₂ (Compat k n) xs ys
  | _, _, _, _ => False

theorem Compat.nodes {k n : Nat} {a b : Arr α} (h : Compat k n a b) : ∃ xs ys, a = .node xs ∧ b = .node ys := by
  cases a with
  | leaf _ => cases k <;> exact h.elim
  | node xs =>
    cases b with
    | leaf _ => cases k <;> exact h.elim
    | node ys => exact ⟨xs, ys, rfl, rfl⟩

theorem take_drop_concat (n : Nat) (k : Nat) (a b : Arr α) (h : Compat k n a b) :
    atAxis (List.take n) k (concat k a b) = a ∧ atAxis (List.drop n) k (concat k a b) = b := by
  induction k generalizing a b with
  | zero =>
    obtain ⟨xs, ys, rfl, rfl⟩ := h.nodes
    obtain rfl : xs.length = n := h
    exact ⟨congrArg node List.take_left, congrArg node List.drop_left⟩
  | succ k ih =>
    obtain ⟨xs, ys, rfl, rfl⟩ := h.nodes
    replace h : List.Forall₂ (Compat k n) xs ys := h
    have hcut : (List.zipWith (concat k) xs ys).map (atAxis (List.take n) k) = xs ∧
        (List.zipWith (concat k) xs ys).map (atAxis (List.drop n) k) = ys := by
      induction h with
      | nil => exact ⟨rfl, rfl⟩
      | cons hxy _ ihl =>
        rw [List.zipWith_cons_cons, List.map_cons, List.map_cons, (ih _ _ hxy).1, (ih _ _ hxy).2, ihl.1, ihl.2]
        exact ⟨rfl, rfl⟩
    rw [concat_succ, atAxis_succ, atAxis_succ, hcut.1, hcut.2]
    exact ⟨rfl, rfl⟩

/-- **slicing the stack at a piece's extent gives the piece** (first piece) -/
theorem take_concat (n : Nat) : ∀ (k : Nat) (a b : Arr α), Compat k n a b →
    atAxis (List.take n) k (concat k a b) = a := fun k a b h => (take_drop_concat n k a b h).1

/-- … and the remainder (second piece) -/
theorem drop_concat (n : Nat) : ∀ (k : Nat) (a b : Arr α), Compat k n a b →
    atAxis (List.drop n) k (concat k a b) = b := fun k a b h => (take_drop_concat n k a b h).2

theorem concat_of_hasShape : ∀ (k : Nat) (sh : List Nat) (n m : Nat) (a b : Arr α), k < sh.length →
    hasShape (sh.set k n) a = true → hasShape (sh.set k m) b = true →
    Compat k n a b ∧ hasShape (sh.set k (n + m)) (concat k a b) = true := by
  intro k sh
  induction sh generalizing k with
  | nil => exact fun _ _ _ _ hk => absurd hk (Nat.not_lt_zero k)
  | cons _ sh ih =>
    intro n m a b hk ha hb
    cases k with
    | zero =>
      obtain ⟨xs, rfl, rfl, hx⟩ := hasShape_cons.mp ha
      obtain ⟨ys, rfl, rfl, hy⟩ := hasShape_cons.mp hb
      refine ⟨rfl, hasShape_node.mpr ⟨List.length_append, fun x hxm => ?_⟩⟩
      exact (List.mem_append.mp hxm).elim (hx x) (hy x)
    | succ k =>
      obtain ⟨xs, rfl, rfl, hx⟩ := hasShape_cons.mp ha
      obtain ⟨ys, rfl, hl, hy⟩ := hasShape_cons.mp hb
      replace ih := fun x hxm y hym => ih k n m x y (Nat.lt_of_succ_lt_succ hk) (hx x hxm) (hy y hym)
      refine ⟨List.forall₂_of_forall hl.symm fun x hxm y hym => (ih x hxm y hym).1, ?_⟩
      rw [concat_succ]
      refine hasShape_node.mpr ⟨by rw [List.length_zipWith, hl, Nat.min_self], fun z hz => ?_⟩
      obtain ⟨i, hi⟩ := List.getElem?_of_mem hz
      obtain ⟨x, y, hxi, hyi, rfl⟩ := List.getElem?_zipWith_eq_some.mp hi
      exact (ih x (List.mem_of_getElem? hxi) y (List.mem_of_getElem? hyi)).2

/-- **length of the stacked dimension is the sum of the inputs'** (shape of a concatenation) -/
theorem concat_shape : ∀ (k : Nat) (sh : List Nat) (m : Nat) (a b : Arr α), k < sh.length →
    hasShape sh a = true → hasShape (sh.set k m) b = true →
    hasShape (sh.set k (sh.getD k 0 + m)) (concat k a b) = true := fun k sh m a b hk ha hb =>
  (concat_of_hasShape k sh _ m a b hk (by rwa [List.set_getD_self]) hb).2

/-- two arrays whose shapes differ at most in axis `k` can be concatenated along `k` -/
theorem compat_of_shapes {α} : ∀ (k : Nat) (sh : List Nat) (m : Nat) (a b : Arr α), k < sh.length →
    hasShape sh a = true → hasShape (sh.set k m) b = true → Compat k (sh.getD k 0) a b := fun k sh m a b hk ha hb =>
  (concat_of_hasShape k sh _ m a b hk (by rwa [List.set_getD_self]) hb).1

/-- the per-axis index lists of a window `[lo, lo + n)` on axis `k`, everything on the other axes -/
def windowSels : List Nat → Nat → Nat → Nat → List (List Nat)
  | [], _, _, _ => []
  | _ :: rest, 0, lo, n => List.range' lo n :: rest.map List.range
  | m :: rest, k + 1, lo, n => List.range m :: windowSels rest k lo n

theorem windowSels_eq_set : ∀ (sh : List Nat) (k lo n : Nat),
    windowSels sh k lo n = (sh.map List.range).set k (List.range' lo n)
  | [], _, _, _ => rfl
  | _ :: _, 0, _, _ => rfl
  | _ :: rest, k + 1, lo, n => congrArg _ (windowSels_eq_set rest k lo n)

/-- **a window is a cut**: the orthogonal selection of a contiguous range on one axis (and everything on the others) is
the array cut to that range along the axis -/
theorem orth_window : ∀ (sh : List Nat) (k : Nat) (a : Arr α) (lo n : Nat), hasShape sh a = true → k < sh.length →
    lo + n ≤ sh.getD k 0 → orth (windowSels sh k lo n) a = atAxis (fun xs => (xs.drop lo).take n) k a := by
  intro sh
  induction sh with
  | nil => exact fun k _ _ _ _ hk => absurd hk (Nat.not_lt_zero k)
  | cons m rest ih =>
    intro k a lo n h hk hb
    obtain ⟨xs, rfl, rfl, hx⟩ := hasShape_cons.mp h
    cases k with
    | zero =>
      rw [windowSels, orth, atAxis_zero, pick_range' xs lo n hb]
      refine congrArg node ((List.map_congr_left fun x hxm => orth_full_id rest x (hx x ?_)).trans (List.map_id _))
      exact List.mem_of_mem_drop (List.mem_of_mem_take hxm)
    | succ k =>
      rw [windowSels, orth, atAxis_succ, pick_range xs]
      exact congrArg node (List.map_congr_left fun x hxm => ih k x lo n (hx x hxm) (Nat.lt_of_succ_lt_succ hk) hb)

/-- two cuts along an axis that together give back the list at that axis give back the array -/
theorem concat_atAxis (f g : List (Arr α) → List (Arr α)) : ∀ (sh : List Nat) (k : Nat) (a : Arr α),
    hasShape sh a = true → k < sh.length → (∀ xs : List (Arr α), xs.length = sh.getD k 0 → f xs ++ g xs = xs) →
    concat k (atAxis f k a) (atAxis g k a) = a := fun sh k a hs hk hfg => by
  rw [concat_atAxis_append, atAxis_congr _ (fun xs => xs) sh k a hs hk hfg, atAxis_id]

/-- the windows `(start, length)` of consecutive pieces of the given lengths, the first starting at `lo` -/
def windows : Nat → List Nat → List (Nat × Nat)
  | _, [] => []
  | lo, n :: rest => (lo, n) :: windows (lo + n) rest

theorem windows_map_snd (lo : Nat) (lens : List Nat) : (windows lo lens).map (·.2) = lens := by
  induction lens generalizing lo with
  | nil => rfl
  | cons n rest ih => rw [windows, List.map_cons, ih]

theorem windows_length (lo : Nat) (lens : List Nat) : (windows lo lens).length = lens.length := by
  rw [← List.length_map (·.2), windows_map_snd]

theorem windows_ne_nil (lo : Nat) {lens : List Nat} (h : lens ≠ []) : windows lo lens ≠ [] := by
  cases lens with
  | nil => exact absurd rfl h
  | cons _ _ => simp [windows]

theorem windows_mem_le : ∀ (lens : List Nat) (lo : Nat), ∀ w ∈ windows lo lens,
    lo ≤ w.1 ∧ w.1 + w.2 ≤ lo + lens.sum := by
  intro lens
  induction lens with
  | nil =>
    intro _ _ h
    cases h
  | cons n rest ih =>
    intro lo w h
    rw [List.sum_cons]
    rcases List.mem_cons.mp h with rfl | h
    · exact ⟨Nat.le_refl _, Nat.add_le_add_left (Nat.le_add_right n rest.sum) lo⟩
    · obtain ⟨h1, h2⟩ := ih (lo + n) w h
      rw [Nat.add_assoc] at h2
      exact ⟨Nat.le_trans (Nat.le_add_right lo n) h1, h2⟩

theorem concatAllG_windows (k : Nat) (a : Arr α) : ∀ (lens : List Nat) (lo : Nat), lens ≠ [] →
    concatAllG k ((windows lo lens).map (fun w => atAxis (fun xs => (xs.drop w.1).take w.2) k a)) =
      atAxis (fun xs => (xs.drop lo).take lens.sum) k a := by
  intro lens
  induction lens with
  | nil =>
    intro _ hne
    exact absurd rfl hne
  | cons n rest ih =>
    intro lo _
    cases rest with
    | nil =>
      rw [List.sum_singleton]
      rfl
    | cons n' rest =>
      have hne : n' :: rest ≠ [] := List.cons_ne_nil _ _
      rw [windows, List.map_cons, concatAllG_cons k _ (mt List.map_eq_nil_iff.mp (windows_ne_nil _ hne)),
        ih (lo + n) hne, concat_atAxis_append]
      simp only [List.sum_cons, List.take_add, List.drop_drop]

/-- **split and stack, any partition, on one array**: the windows of consecutive pieces whose lengths add up to the length
of axis `k`, concatenated in order along `k`, are the array -/
theorem concat_partition {α} (sh : List Nat) (k : Nat) (a : Arr α) (hs : hasShape sh a = true) (hk : k < sh.length)
    (lens : List Nat) (hne : lens ≠ []) (hsum : lens.sum = sh.getD k 0) :
    concatAllG k ((windows 0 lens).map (fun w => orth (windowSels sh k w.1 w.2) a)) = a := by
  have hin : ∀ w ∈ windows 0 lens, w.1 + w.2 ≤ sh.getD k 0 := fun w hw =>
    Nat.le_trans (windows_mem_le lens 0 w hw).2 (Nat.le_of_eq ((Nat.zero_add _).trans hsum))
  rw [List.map_congr_left fun w hw => orth_window sh k a w.1 w.2 hs hk (hin w hw), concatAllG_windows k a lens 0 hne]
  exact atAxis_window_full sh k a hs hk (Nat.le_of_eq hsum.symm)

theorem pair_sum {c n : Nat} (hc : c ≤ n) : [c, n - c].sum = n := by
  rw [List.sum_cons, List.sum_singleton]
  exact Nat.add_sub_cancel' hc

/-- **split and stack, on one array**: the windows `[0, c)` and `[c, m)` along axis `k` of an array whose axis `k` has
length `m`, concatenated along `k`, are the array -/
theorem concat_windows (sh : List Nat) (k : Nat) (a : Arr α) (c : Nat) (hs : hasShape sh a = true) (hk : k < sh.length)
    (hc : c ≤ sh.getD k 0) :
    concat k (orth (windowSels sh k 0 c) a) (orth (windowSels sh k c (sh.getD k 0 - c)) a) = a := by
  have := concat_partition sh k a hs hk [c, sh.getD k 0 - c] (List.cons_ne_nil _ _) (pair_sum hc)
  rwa [windows, windows, Nat.zero_add] at this

/-- start of piece `p` among pieces of the given lengths -/
def offsetOf (lens : List Nat) (p : Nat) : Nat := (lens.take p).sum

theorem offset_add_le (lens : List Nat) (p : Nat) (hp : p < lens.length) : offsetOf lens p + lens[p] ≤ lens.sum := by
  have := congrArg List.sum (List.take_append_drop p lens)
  rw [List.sum_append, List.drop_eq_getElem_cons hp, List.sum_cons] at this
  unfold offsetOf
  rw [← this, ← Nat.add_assoc]
  exact Nat.le_add_right _ _

theorem concatAllG_shape (sh : List Nat) (k : Nat) (hk : k < sh.length) :
    ∀ (parts : List (Arr α × Nat)), parts ≠ [] → (∀ q ∈ parts, hasShape (sh.set k q.2) q.1 = true) →
      hasShape (sh.set k ((parts.map (·.2)).sum)) (concatAllG k (parts.map (·.1))) = true := by
  intro parts
  induction parts with
  | nil =>
    intro h _
    exact absurd rfl h
  | cons q rest ih =>
    intro _ hq
    cases rest with
    | nil =>
      rw [List.map_singleton, List.sum_singleton]
      exact hq q List.mem_cons_self
    | cons q' rest =>
      exact (concat_of_hasShape k sh _ _ _ _ hk (hq q List.mem_cons_self)
        (ih (List.cons_ne_nil _ _) fun r hr => hq r (List.mem_cons_of_mem _ hr))).2

theorem atAxis_window_concat {n k : Nat} {a b : Arr α} (h : Compat k n a b) (lo len : Nat) :
    atAxis (fun xs => (xs.drop (n + lo)).take len) k (concat k a b) = atAxis (fun xs => (xs.drop lo).take len) k b := by
  have := congrArg (atAxis (fun xs => (xs.drop lo).take len) k) (drop_concat n k a b h)
  rw [atAxis_comp] at this
  simpa only [List.drop_drop] using this

/-- `parts` pairs each array with its length along `k` -/
theorem atAxis_window_concatAllG (sh : List Nat) (k : Nat) (hk : k < sh.length) :
    ∀ (parts : List (Arr α × Nat)), (∀ q ∈ parts, hasShape (sh.set k q.2) q.1 = true) →
    ∀ (p : Nat) (hp : p < parts.length),
      atAxis (fun xs => (xs.drop (offsetOf (parts.map (·.2)) p)).take parts[p].2) k (concatAllG k (parts.map (·.1))) =
        parts[p].1 := by
  intro parts
  induction parts with
  | nil => exact fun _ p hp => absurd hp (Nat.not_lt_zero p)
  | cons q rest ih =>
    intro hq p hp
    cases rest with
    | nil =>
      -- one piece: the window is the whole axis
      obtain rfl : p = 0 := Nat.lt_one_iff.mp hp
      exact atAxis_window_full _ k q.1 (hq q List.mem_cons_self) (by rwa [List.length_set])
        (Nat.le_of_eq (List.getD_set_self sh k _ 0 hk))
    | cons q' rest =>
      have hrest : ∀ r ∈ q' :: rest, hasShape (sh.set k r.2) r.1 = true := fun r hr => hq r (List.mem_cons_of_mem _ hr)
      -- the first operand and the concatenation of the others can be concatenated
      have hc := (concat_of_hasShape k sh _ _ _ _ hk (hq q List.mem_cons_self)
        (concatAllG_shape sh k hk _ (List.cons_ne_nil _ _) hrest)).1
      cases p with
      | zero => exact take_concat _ k _ _ hc
      | succ p => exact (atAxis_window_concat hc _ _).trans (ih hrest p (Nat.lt_of_succ_lt_succ hp))

/-- **slicing a stack of any number of arrays at the extent of piece `p` gives piece `p`**: arrays whose shapes agree off
axis `k` (lengths `lens` along `k`), concatenated in order along `k`; the window `[offset p, offset p + lens[p])` of the
result is the `p`-th array -/
theorem window_of_concatAll {α} (sh : List Nat) (k : Nat) (hk : k < sh.length) :
    ∀ (parts : List (Arr α × Nat)), (∀ q ∈ parts, hasShape (sh.set k q.2) q.1 = true) →
    ∀ (p : Nat) (hp : p < parts.length),
      orth (windowSels (sh.set k ((parts.map (·.2)).sum)) k (offsetOf (parts.map (·.2)) p) (parts[p].2))
        (concatAllG k (parts.map (·.1))) = parts[p].1 := fun parts hq p hp => by
  have hle := offset_add_le (parts.map (·.2)) p (by rwa [List.length_map])
  rw [List.getElem_map] at hle
  have hshape := concatAllG_shape sh k hk parts (List.ne_nil_of_length_pos (Nat.zero_lt_of_lt hp)) hq
  rw [orth_window _ k _ _ _ hshape (by rwa [List.length_set]) (by rw [List.getD_set_self sh k _ 0 hk]; exact hle)]
  exact atAxis_window_concatAllG sh k hk parts hq p hp

theorem pair_shapes (sh : List Nat) (k m : Nat) (a b : Arr α) (ha : hasShape sh a = true)
    (hb : hasShape (sh.set k m) b = true) : ∀ q ∈ [(a, sh.getD k 0), (b, m)], hasShape (sh.set k q.2) q.1 = true :=
  List.forall_mem_cons.mpr ⟨by rwa [List.set_getD_self], List.forall_mem_singleton.mpr hb⟩

/-- **the first piece's extent of a concatenation is the first piece** (as the orthogonal window selection that
`sliceDimensions` performs) -/
theorem window_concat_left {α} (sh : List Nat) (k m : Nat) (a b : Arr α) (hk : k < sh.length)
    (ha : hasShape sh a = true) (hb : hasShape (sh.set k m) b = true) :
    orth (windowSels (sh.set k (sh.getD k 0 + m)) k 0 (sh.getD k 0)) (concat k a b) = a :=
  window_of_concatAll sh k hk [(a, sh.getD k 0), (b, m)] (pair_shapes sh k m a b ha hb) 0 (Nat.zero_lt_succ 1)

/-- … and the second piece's extent is the second piece -/
theorem window_concat_right {α} (sh : List Nat) (k m : Nat) (a b : Arr α) (hk : k < sh.length)
    (ha : hasShape sh a = true) (hb : hasShape (sh.set k m) b = true) :
    orth (windowSels (sh.set k (sh.getD k 0 + m)) k (sh.getD k 0) m) (concat k a b) = b :=
  window_of_concatAll sh k hk [(a, sh.getD k 0), (b, m)] (pair_shapes sh k m a b ha hb) 1 (Nat.lt_succ_self 1)

end Props.C04
