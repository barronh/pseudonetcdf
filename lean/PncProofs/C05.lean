import PncModel.Handles
import PncProofs.ListLemmas
import Mathlib.Data.List.Sublists

/-!
# C05 (handles) — closing or dropping any file object never invalidates another open file

`Handles.step` is the model of the code as it is now (`Generated.closeGuarded` is re-extracted from
`core/_files.py` on every run).  The invariant `Live` says that every Python object that still
believes it is open owns a slot of the C library table that maps to its own file, and that no two
such objects share a slot.
-/
namespace Props.C05
open Handles

def openSlots (objs : List Obj) : List Nat := (objs.filter (·.pyOpen)).map (·.slot)

structure Live (s : State) : Prop where
  slotsNodup : (s.table.map (·.1)).Nodup
  owns : ∀ o ∈ s.objs, o.pyOpen = true → (o.slot, o.file) ∈ s.table
  distinct : (openSlots s.objs).Nodup

theorem lowestFree_not_mem (t : List (Nat × Nat)) : ∀ p ∈ t, p.1 ≠ lowestFree t := by
  intro p hp heq
  unfold lowestFree at heq
  cases hf : (List.range (t.length + 1)).find? (fun s => !(t.any (·.1 == s))) with
  | some s0 =>
    rw [hf] at heq
    simp only [Option.getD_some] at heq
    have := List.find?_some hf
    simp only [Bool.not_eq_true', List.any_eq_false, beq_iff_eq] at this
    exact this p hp heq
  | none =>
    -- impossible: t.length + 1 candidates, at most t.length taken
    have hsub : List.range (t.length + 1) ⊆ t.map (·.1) := fun s hs => by
      have := List.find?_eq_none.mp hf s hs
      simp only [Bool.not_eq_true', Bool.not_eq_false, List.any_eq_true, beq_iff_eq] at this
      obtain ⟨q, hq, hqs⟩ := this
      exact List.mem_map.mpr ⟨q, hq, hqs⟩
    have hle := (List.subperm_of_subset List.nodup_range hsub).length_le
    rw [List.length_range, List.length_map] at hle
    exact Nat.not_succ_le_self _ hle

theorem live_init : Live init := ⟨List.nodup_nil, fun _ h => absurd h List.not_mem_nil, List.nodup_nil⟩

theorem openSlots_append (a b : List Obj) : openSlots (a ++ b) = openSlots a ++ openSlots b := by
  unfold openSlots
  rw [List.filter_append, List.map_append]

theorem openSlots_cons (o : Obj) (l : List Obj) :
    openSlots (o :: l) = if o.pyOpen = true then o.slot :: openSlots l else openSlots l := by
  unfold openSlots
  rw [List.filter_cons]
  split <;> rfl

theorem mem_openSlots {objs : List Obj} {o : Obj} (h : o ∈ objs) (ho : o.pyOpen = true) : o.slot ∈ openSlots objs :=
  List.mem_map.mpr ⟨o, List.mem_filter.mpr ⟨h, ho⟩, rfl⟩

theorem live_close (s : State) (i : Nat) (h : Live s) : Live (closeObj true s i) := by
  unfold closeObj
  cases hi : s.objs[i]? with
  | none => exact h
  | some o =>
    show Live (if _ ∧ (!o.pyOpen) = true then s else _)
    cases hop : o.pyOpen with
    | false =>
      rw [if_pos ⟨rfl, rfl⟩]
      exact h
    | true =>
      -- the objects are `A ++ o :: B`; the slots of `A ++ B` are distinct and none of them is `o.slot`
      obtain ⟨A, B, hAB, rfl⟩ := List.split_of_getElem? hi
      have hd := h.distinct
      rw [hAB, openSlots_append, openSlots_cons, if_pos hop, List.nodup_middle, List.nodup_cons,
        ← openSlots_append] at hd
      rw [if_neg fun h => Bool.false_ne_true h.2, hAB, List.set_append_right _ _ le_rfl, Nat.sub_self,
        List.set_cons_zero]
      refine ⟨h.slotsNodup.sublist (List.Sublist.map _ List.filter_sublist), ?_, ?_⟩
      · intro o' ho' hopen'
        rw [List.mem_append, List.mem_cons] at ho'
        have hm : o' ∈ A ∨ o' ∈ B := ho'.imp_right fun h1 => h1.resolve_left fun e => by
          rw [e] at hopen'
          cases hopen'
        have hm' : o' ∈ s.objs := by
          rw [hAB, List.mem_append, List.mem_cons]
          exact hm.imp_right Or.inr
        refine List.mem_filter.mpr ⟨h.owns o' hm' hopen', ?_⟩
        simp only [bne_iff_ne, ne_eq]
        intro he
        exact hd.1 (he ▸ mem_openSlots (List.mem_append.mpr hm) hopen')
      · rw [openSlots_append, openSlots_cons, if_neg Bool.false_ne_true, ← openSlots_append]
        exact hd.2

theorem live_step (s : State) (e : Ev) (h : Live s) : Live (stepWith true s e) := by
  cases e with
  | «open» f =>
    have hfree : lowestFree s.table ∉ s.table.map (·.1) := fun hm => by
      obtain ⟨p, hp, e⟩ := List.mem_map.mp hm
      exact lowestFree_not_mem s.table p hp e
    simp only [stepWith]
    refine ⟨?_, ?_, ?_⟩
    · rw [List.map_append]
      exact List.nodup_append_comm.mp (List.nodup_cons.mpr ⟨hfree, h.slotsNodup⟩)
    · intro o ho hopen
      rcases List.mem_append.mp ho with ho | ho
      · exact List.mem_append_left _ (h.owns o ho hopen)
      · rw [List.mem_singleton.mp ho]
        exact List.mem_append_right _ (List.mem_singleton_self _)
    · -- an open object owns a slot of the table, which the new slot is not
      rw [openSlots_append]
      refine List.nodup_append_comm.mp (List.nodup_cons.mpr ⟨fun hm => ?_, h.distinct⟩)
      obtain ⟨o, ho, e⟩ := List.mem_map.mp hm
      obtain ⟨ho1, ho2⟩ := List.mem_filter.mp ho
      exact hfree (List.mem_map.mpr ⟨_, h.owns o ho1 ho2, e⟩)
  | close i => exact live_close s i h
  | drop i =>
    simp only [stepWith]
    have hc := live_close s i h
    cases hi : (closeObj true s i).objs[i]? with
    | none => exact hc
    | some o =>
      simp only
      refine ⟨hc.slotsNodup, ?_, ?_⟩
      · intro o' ho' hopen'
        rcases List.mem_or_eq_of_mem_set ho' with hm | hm
        · exact hc.owns o' hm hopen'
        · subst hm
          exact hc.owns o (List.mem_of_getElem? hi) hopen'
      · obtain ⟨A, B, hAB, rfl⟩ := List.split_of_getElem? hi
        have hd := hc.distinct
        -- the open slots do not depend on the `dropped` flag
        rw [hAB, openSlots_append, openSlots_cons] at hd
        rw [hAB, List.set_append_right _ _ le_rfl, Nat.sub_self, List.set_cons_zero, openSlots_append, openSlots_cons]
        exact hd

/-- **C05 (any history).** After ANY sequence of open / close / close-again / drop events, in any
order and any number of times, the invariant holds for the code as it is now … -/
theorem live_run (es : List Ev) : Live (run init es) := by
  -- `step` is `stepWith true`: the flag extracted from the source says that `close` is guarded
  have hstep : ∀ s e, Live s → Live (step s e) := live_step
  exact List.foldlRecOn es step live_init fun s hs e _ => hstep s e hs

/-- … hence every object that still believes it is open can be read: no close, double close or
finaliser of another object has taken its handle away. -/
theorem open_objects_readable (es : List Ev) (i : Nat) (o : Obj)
    (hi : (run init es).objs[i]? = some o) (hopen : o.pyOpen = true) : readable (run init es) i = true := by
  have h := live_run es
  unfold readable
  rw [hi]
  simp only [hopen, Bool.true_and, List.any_eq_true, Bool.and_eq_true, beq_iff_eq]
  exact ⟨(o.slot, o.file), h.owns o (List.mem_of_getElem? hi) hopen, rfl, rfl⟩

/-- The unguarded variant (the code before the `fix:` commit) breaks a third file: open a, close a,
open b (b gets a's recycled slot), drop a (finaliser closes the slot again) — b is no longer
readable.  The check replays this history on the real code (it must not reproduce any more). -/
theorem unguarded_counterexample :
    let s := [Ev.open 0, Ev.close 0, Ev.open 1, Ev.drop 0].foldl (stepWith false) init
    (s.objs[1]?.map (·.pyOpen)) = some true ∧ readable s 1 = false := by
  decide +kernel

end Props.C05
