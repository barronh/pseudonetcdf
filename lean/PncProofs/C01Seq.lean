import PncProofs.C01Files
import PncProofs.C06

/-!
# C01 — the representation invariant along sequences of operations

`Inv`: well-formed, with distinct dimension names and distinct variable names.  Every operation applied in its domain
keeps `Inv` (`step_inv`) and keeps the unlimited flag of each dimension that survives (`step_unlim`).
-/
namespace Props.C01
open PFile Arr Props.C03 Props.C06

/-- the representation invariant of a file: well-formed, and dimensions and variables are keyed by distinct names -/
def Inv (f : File) : Prop := WF f ∧ DimsNodup f ∧ NamesNodup f

theorem map_names (l : List Var) (g : Var → Var) (hg : ∀ v, (g v).name = v.name) :
    (l.map g).map (·.name) = l.map (·.name) := by
  rw [List.map_map]
  exact List.map_congr_left (fun v _ => hg v)

theorem mask_names (f : File) (m : MaskSpec) (coords : List String) (mc : Bool) :
    (maskFile f m coords mc).dims = f.dims ∧ (maskFile f m coords mc).names = f.names := by
  refine ⟨rfl, map_names _ _ (fun v => ?_)⟩
  dsimp only
  -- both branches keep the name
  rw [apply_ite Var.name]
  exact ite_self _

theorem binop_names {op : Op} {f1 f2 r : File} {coords : List String} (hs : binopFile op f1 f2 coords = .ok r) :
    r.dims = f1.dims ∧ r.names = f1.names := by
  cases binop_ok hs
  refine ⟨rfl, map_names _ _ (fun v => ?_)⟩
  obtain e | ⟨w, c, attrs, _, e⟩ := binopVar_cases op f1 f2 coords v <;> rw [e]

theorem reorder_names {f r : File} {no : List String} (hs : reorderFile f no = .ok r) :
    r.dims = f.dims ∧ r.names = f.names := by
  obtain ⟨φ, rfl, hφ⟩ := reorder_ok hs
  refine ⟨rfl, map_names _ _ (fun v => ?_)⟩
  obtain e | ⟨c, e⟩ := hφ v <;> rw [e]

theorem apply_names {f r : File} {fns : List (String × Fn)} (hs : applyFile f fns = .ok r) :
    r.dims.map (·.name) = f.dims.map (·.name) ∧ r.names = f.names := by
  obtain ⟨hd, hv⟩ := apply_ok hs
  unfold File.names
  rw [hd, hv]
  exact ⟨by rw [List.map_map]; rfl, map_names _ _ (fun _ => rfl)⟩

theorem removeSingleton_names (f : File) (dk : Option String) :
    List.Sublist ((removeSingletonFile f dk).dims.map (·.name)) (f.dims.map (·.name)) ∧
    (removeSingletonFile f dk).names = f.names :=
  ⟨List.filter_sublist.map _, map_names _ _ (fun _ => rfl)⟩

theorem uniq_sub : ∀ (l : List String), List.Sublist (uniq l) l
  | [] => List.Sublist.slnil
  | a :: l => by
    unfold uniq
    exact (List.filter_sublist.trans (uniq_sub l)).cons_cons a

theorem uniq_nodup : ∀ (l : List String), (uniq l).Nodup
  | [] => List.nodup_nil
  | a :: l => by
    unfold uniq
    rw [List.nodup_cons]
    refine ⟨?_, (uniq_nodup l).sublist List.filter_sublist⟩
    intro h
    have := (List.mem_filter.mp h).2
    simp at this

theorem uniq_mem : ∀ (l : List String) (k : String), k ∈ uniq l ↔ k ∈ l
  | [], k => by simp [uniq]
  | a :: l, k => by
    unfold uniq
    simp only [List.mem_cons, List.mem_filter, uniq_mem l k]
    constructor
    · rintro (h | ⟨h, _⟩)
      · exact Or.inl h
      · exact Or.inr h
    · rintro (h | h)
      · exact Or.inl h
      · by_cases hk : k = a
        · exact Or.inl hk
        · exact Or.inr ⟨h, by simpa using hk⟩

theorem filterMap_var_names (f : File) : ∀ (l : List String),
    (l.filterMap f.var?).map (·.name) = l.filter (fun k => (f.var? k).isSome)
  | [] => rfl
  | k :: l => by
    simp only [List.filterMap_cons, List.filter_cons]
    cases h : f.var? k with
    | none =>
      rw [Option.isSome_none, if_neg Bool.false_ne_true]
      exact filterMap_var_names f l
    | some v =>
      rw [Option.isSome_some, if_pos rfl]
      exact congrArg₂ (· :: ·) (File.var?_mem h).2 (filterMap_var_names f l)

theorem subset_names {f r : File} {keys : List String} {ex : Bool} (hs : subsetFile f keys ex = .ok r) :
    r.dims = f.dims ∧ NamesNodup r := by
  obtain ⟨ks, rfl⟩ := subset_ok hs
  refine ⟨rfl, ?_⟩
  unfold NamesNodup
  rw [filterMap_var_names]
  exact (uniq_nodup _).sublist List.filter_sublist

theorem nodup_names_append {f : File} (hn : DimsNodup f) {e : Dim} (he : f.dim? e.name = none) :
    ((f.dims ++ [e]).map (·.name)).Nodup :=
  List.nodup_map_concat _ hn (fun _ hd h => File.dim?_eq_none.mp he (h ▸ List.mem_map_of_mem hd))

theorem insertDim_names (f : File) (name : String) (len : Nat) (no mo : Bool) (b a : Option String) (hn : DimsNodup f) :
    DimsNodup (insertDimFile f name len no mo b a) ∧
    (insertDimFile f name len no mo b a).names = f.names := by
  obtain ⟨φ, hvars, hφ⟩ := insertDim_vars f name len no mo b a
  refine ⟨?_, ?_⟩
  · unfold DimsNodup
    rw [insertDim_dims]
    split
    · rw [List.append_nil]
      exact hn
    · rename_i hd
      exact nodup_names_append hn (e := ⟨name, len, false⟩) (Option.not_isSome_iff_eq_none.mp hd)
  · unfold File.names
    rw [hvars]
    refine map_names _ φ (fun v => ?_)
    obtain e | ⟨bi, c, e⟩ := hφ v <;> rw [e]

theorem renameVar_dims {f r : File} {old new : String} (hs : renameVarFile f old new = .ok r) : r.dims = f.dims := by
  obtain ⟨_, _, _, rfl, _⟩ := renameVar_ok hs
  rfl

theorem renameVar_names {f r : File} {old new : String} (hn : NamesNodup f) (hs : renameVarFile f old new = .ok r) :
    NamesNodup r := by
  obtain ⟨v0, vs, _, rfl, hvs⟩ := renameVar_ok hs
  unfold NamesNodup at hn ⊢
  rcases hvs with rfl | rfl | rfl
  · exact hn.sublist (List.filter_sublist.map _)
  · dsimp only
    rw [map_names]
    · exact hn.sublist (List.filter_sublist.map _)
    · intro w
      split
      · rename_i h
        exact (eq_of_beq h).symm
      · rfl
  · refine List.nodup_map_concat _ (hn.sublist (List.filter_sublist.map _)) (fun w hw h => ?_)
    have := (List.mem_filter.mp hw).2
    rw [h] at this
    simp at this

theorem renamedDims_names (f : File) : ∀ (ps : List (String × String)),
    List.Sublist ((renamedDims f ps).map (·.name)) (ps.map (·.2))
  | [] => List.Sublist.slnil
  | p :: ps => by
    unfold renamedDims
    simp only [List.filterMap_cons, List.map_cons]
    cases f.dim? p.1 with
    | none => exact (renamedDims_names f ps).cons _
    | some d => exact (renamedDims_names f ps).cons_cons _

theorem renameDims_names {f r : File} {pairs : List (String × String)} (hn : DimsNodup f)
    (hs : renameDimsFile f pairs = .ok r) : DimsNodup r ∧ r.names = f.names := by
  obtain ⟨ps, _, hnd, hfresh, rfl⟩ := renameDims_ok hs
  refine ⟨?_, map_names _ _ (fun _ => rfl)⟩
  unfold DimsNodup
  rw [List.map_append, List.nodup_append]
  refine ⟨hn.sublist (List.filter_sublist.map _), hnd.sublist (renamedDims_names f ps), fun a ha b hb hab => ?_⟩
  obtain ⟨p, hp, hpb⟩ := List.mem_map.mp ((renamedDims_names f ps).subset hb)
  exact File.dim?_eq_none.mp (hfresh p hp) (hpb ▸ hab ▸ (List.filter_sublist.map _).subset ha)

theorem slice_names {f r : File} {sels : List (String × PSel)} {newdim : String} (hn : DimsNodup f)
    (hnew : zippedSels sels = true → f.dim? newdim = none) (hs : sliceFile f sels newdim = .ok r) :
    DimsNodup r ∧ r.names = f.names := by
  obtain ⟨idx, L, vars, hidx, hvars, rfl⟩ := sliceFile_ok hs
  refine ⟨?_, List.map_eq_map_of_mapM_ok _ _ hvars fun v _ w => sliceVar_name⟩
  have hbase : (f.dims.map (fun d => ({ d with len := slicedLen idx d } : Dim))).map (·.name) = f.dims.map (·.name) :=
    List.map_map
  unfold DimsNodup slicedDims
  dsimp only
  split
  · rename_i hz
    have := nodup_names_append hn (e := ⟨newdim, L, false⟩) (hnew hz)
    rw [List.map_append] at this ⊢
    rw [hbase]
    exact this
  · rw [hbase]
    exact hn

theorem stack_names {f0 : File} {rest : List File} {sd : String} {r : File} (hn : DimsNodup f0)
    (hs : stackFiles (f0 :: rest) sd = .ok r) : DimsNodup r ∧ NamesNodup r := by
  obtain ⟨vars, hvars, rfl⟩ := stack_ok hs
  refine ⟨?_, ?_⟩
  · exact List.nodup_map_concat _ (sharedDims_nodup _ sd hn) (fun d hd => (mem_sharedDims.mp hd).2.1)
  · unfold NamesNodup
    simp only
    rw [List.map_eq_map_of_mapM_ok _ _ hvars fun v _ w => stackVar_name]
    exact firstByName_nodup _ [] List.nodup_nil

theorem eq_of_mem_pair_self {f g : File} (h : g ∈ [f, f]) : g = f := by
  simpa using h

theorem conform_self (f : File) (hn : NamesNodup f) : Conform [f, f] := by
  intro g hg h hh v hv w hw
  cases eq_of_mem_pair_self hg
  cases eq_of_mem_pair_self hh
  rw [File.var?_of_mem hn hv] at hw
  cases hw
  rfl

/-- **C01 (stack with itself)**: for a well-formed file with distinct names the side conditions of `stack_wf` hold -/
theorem stackSelf_wf (f r : File) (sd : String) (hwf : WF f) (hd : DimsNodup f) (hv : NamesNodup f)
    (hs : stackFiles [f, f] sd = .ok r) : WF r :=
  stack_wf f [f] sd r (fun _ hg => eq_of_mem_pair_self hg ▸ hwf) hd (conform_self f hv) hs

/-- all variables an expression names have one shape, and none of them is a reserved name of `eval` -/
def EvalDom (f : File) (e : Expr) : Prop :=
  ∀ n ∈ e.vars, n ∉ evalReserved ∧ ∀ v, f.var? n = some v → ∀ m ∈ e.vars, ∀ w, f.var? m = some w → f.shapeOf w = f.shapeOf v

/-- **C01 (eval in place).** `f.eval('t = expr', inplace=True)` on a file that meets the invariant, for an expression
over variables of one shape, gives a file that meets it: the new variable has the dimensions of the expression's first
variable and data of exactly their lengths. -/
theorem evalInto_inv (f g : File) (t : String) (e : Expr) (hwf : WF f) (hdn : DimsNodup f) (hvn : NamesNodup f)
    (hd : EvalDom f e) (h : evalInto (evalEnv f) f t e = .ok g) : WF g ∧ DimsNodup g ∧ NamesNodup g := by
  obtain ⟨tv, dat, htv, hdat, rfl⟩ := evalInto_ok h
  obtain ⟨m, hm, hfm⟩ := firstVar_bound (eval_sound f hvn) htv
  have htvwf : VarWF f tv := hwf tv (File.var?_mem hfm).1
  have hshape : hasShape (f.shapeOf tv) dat = true := by
    rw [evalns_eq_eval f tv.data e hvn (fun n hn => (hd n hn).1)] at hdat
    refine (eval_pointwise f (f.shapeOf tv) tv.data htvwf.2 e (fun n hn v hv => ?_) dat hdat).1
    rw [← (hd m hm).2 tv hfm n hn v hv]
    exact (hwf v (File.var?_mem hv).1).2
  refine ⟨fun v hv => varWF_congr (f := f) rfl ?_, hdn, ?_⟩
  · rcases List.mem_append.mp hv with h1 | h2
    · exact hwf v (List.mem_filter.mp h1).1
    · rw [List.mem_singleton.mp h2]
      exact ⟨htvwf.1, hshape⟩
  · exact List.nodup_map_concat _ (hvn.sublist (List.filter_sublist.map _))
      (fun w hw => bne_iff_ne.mp (List.mem_filter.mp hw).2)

/-- the documented domain of an operation at a state, as far as the theorems need it: the name of the new dimension of a
pointwise selection is free; functions are applied along non-empty dimensions and leave at least one element -/
def Dom (f : File) : SOp → Prop
  | .slice ss nd => zippedSels ss = true → f.dim? nd = none
  | .apply fns => (∀ d ∈ f.dims, 0 < d.len) ∧ ∀ name fn, fnOf fns name = some fn → 0 < fnLen fn (f.dimLen name)
  | .eval _ e => EvalDom f e
  | _ => True

theorem step_dimsNodup (f g : File) (o : SOp) (hdn : DimsNodup f) (hd : Dom f o) (hs : o.run f = .ok g) :
    DimsNodup g := by
  have sameDims : g.dims = f.dims → DimsNodup g := fun h => by
    unfold DimsNodup
    rw [h]
    exact hdn
  cases o with
  | copy => cases hs; exact hdn
  | slice ss nd => exact (slice_names hdn hd hs).1
  | apply fns =>
    unfold DimsNodup
    rw [(apply_names hs).1]
    exact hdn
  | subset keys ex => exact sameDims (subset_names hs).1
  | renameVar a b => exact sameDims (renameVar_dims hs)
  | renameDim a b => exact (renameDims_names hdn (renameDims_of_renameDim hs)).1
  | renameDims ps => exact (renameDims_names hdn hs).1
  | removeSingleton d => cases hs; exact hdn.sublist (removeSingleton_names f d).1
  | insertDim name l no mo b a => cases hs; exact (insertDim_names f name l no mo b a hdn).1
  | reorder names => exact sameDims (reorder_names hs).1
  | stackSelf d => exact (stack_names hdn hs).1
  | binopSelf op => exact sameDims (binop_names hs).1
  | maskGt q => cases hs; exact hdn
  | eval t e => exact sameDims (evalInto_spec _ f g t e hs).1

/-- **C01, one step.** An operation applied in its domain to a file that meets the representation invariant either
raises or gives a file that meets it. -/
theorem step_inv (f g : File) (o : SOp) (h : Inv f) (hd : Dom f o) (hs : o.run f = .ok g) : Inv g := by
  obtain ⟨hwf, hdn, hvn⟩ := h
  have sameNames : g.names = f.names → NamesNodup g := fun h => by
    unfold NamesNodup
    rw [← File.names, h]
    exact hvn
  suffices WF g ∧ NamesNodup g from ⟨this.1, step_dimsNodup f g o hdn hd hs, this.2⟩
  cases o with
  | copy => cases hs; exact ⟨hwf, hvn⟩
  | slice ss nd => exact ⟨slice_wf' f g ss nd hwf hd hs, sameNames (slice_names hdn hd hs).2⟩
  | apply fns => exact ⟨apply_wf f g fns hwf hd.1 hd.2 hs, sameNames (apply_names hs).2⟩
  | subset keys ex => exact ⟨subset_wf f g keys ex hwf hs, (subset_names hs).2⟩
  | renameVar o n => exact ⟨renameVar_wf f g o n hwf hs, renameVar_names hvn hs⟩
  | renameDim o n => exact ⟨renameDim_wf f g o n hwf hs, sameNames (renameDims_names hdn (renameDims_of_renameDim hs)).2⟩
  | renameDims ps => exact ⟨renameDims_wf f g ps hwf hs, sameNames (renameDims_names hdn hs).2⟩
  | removeSingleton d => cases hs; exact ⟨removeSingleton_wf f d hwf, sameNames (removeSingleton_names f d).2⟩
  | insertDim name l no mo b a =>
    cases hs
    exact ⟨insertDim_wf_all f name l no mo b a hwf, sameNames (insertDim_names f name l no mo b a hdn).2⟩
  | reorder names => exact ⟨reorder_wf f g names hwf hs, sameNames (reorder_names hs).2⟩
  | stackSelf d => exact ⟨stackSelf_wf f g d hwf hdn hvn hs, (stack_names hdn hs).2⟩
  | binopSelf op => exact ⟨binop_wf op f f g [] hwf hwf hs, sameNames (binop_names hs).2⟩
  | maskGt q => cases hs; exact ⟨mask_wf f _ [] false (fun ds h => nomatch h) hwf, sameNames (mask_names f _ [] false).2⟩
  | eval t e =>
    obtain ⟨h1, _, h3⟩ := evalInto_inv f g t e hwf hdn hvn hd hs
    exact ⟨h1, h3⟩

/-- every operation of the sequence is applied in its domain, at the state it is applied to -/
def DomSeq (f : File) : List SOp → Prop
  | [] => True
  | o :: rest => Dom f o ∧ ∀ g, o.run f = .ok g → DomSeq g rest

/-- the name under which a dimension of the input appears in the output -/
def SOp.ren : SOp → String → String
  | .renameDim o n, k => if k == o then n else k
  | .renameDims ps, k => renameKey (ps.filter (fun p => p.1 != p.2)) k
  | _, k => k

theorem ren_renameDim (o n k : String) : SOp.ren (.renameDim o n) k = SOp.ren (.renameDims [(o, n)]) k := by
  change (if k == o then n else k) = renameKey ([(o, n)].filter (fun p => p.1 != p.2)) k
  unfold renameKey
  rw [List.filter_cons]
  cases hon : o == n with
  | true =>
    rw [bne, hon, Bool.not_true, if_neg Bool.false_ne_true, List.filter_nil, List.lookup_nil, Option.getD_none]
    split
    · rename_i hk
      rw [← eq_of_beq hon, eq_of_beq hk]
    · rfl
  | false =>
    rw [bne, hon, Bool.not_false, if_pos rfl, List.filter_nil, List.lookup_cons, List.lookup_nil]
    cases k == o <;> rfl

/-- every case is the `dim?` lemma of that operation's change to the dimension list -/
theorem step_dim? (f g : File) (o : SOp) (hdn : DimsNodup f) (hs : o.run f = .ok g) {k : String} {d0 d : Dim}
    (h0 : f.dim? k = some d0) (h : g.dim? (SOp.ren o k) = some d) : d.unlim = d0.unlim := by
  have found : ∀ d', g.dim? (SOp.ren o k) = some d' → d'.unlim = d0.unlim → d.unlim = d0.unlim := fun d' h' hu => by
    rw [h'] at h
    cases h
    exact hu
  have kept : g.dims = f.dims → SOp.ren o k = k → d.unlim = d0.unlim := fun hg hr =>
    found d0 (by rw [hr, File.dim?_congr hg, h0]) rfl
  have renamed : ∀ ps, renameDimsFile f ps = .ok g → SOp.ren o k = SOp.ren (.renameDims ps) k → d.unlim = d0.unlim := by
    intro ps hs hr
    obtain ⟨ps', rfl, hnd, hfresh, hg⟩ := renameDims_ok hs
    rw [hr] at found
    exact found _ (renameDims_dim? hnd hfresh (congrArg File.dims hg) h0) rfl
  cases o with
  | copy => cases hs; exact kept rfl rfl
  | slice ss nd =>
    obtain ⟨idx, L, vars, _, _, rfl⟩ := sliceFile_ok hs
    exact found _ (sliced_dim_old idx _ L nd vars h0) rfl
  | apply fns => exact found _ ((File.dim?_map_len (apply_ok hs).1 k).trans (congrArg _ h0)) rfl
  | subset keys ex => exact kept (subset_names hs).1 rfl
  | renameVar a b => exact kept (renameVar_dims hs) rfl
  | renameDim a b => exact renamed [(a, b)] (renameDims_of_renameDim hs) (ren_renameDim a b k)
  | renameDims ps => exact renamed ps hs rfl
  | removeSingleton dk =>
    -- a dimension that is still there is the one that was
    cases hs
    change File.dim? _ k = some d at h
    rw [File.dim?_of_sublist List.filter_sublist hdn h] at h0
    cases h0
    rfl
  | insertDim name l no mo b a =>
    cases hs
    exact found _ (File.dim?_append_old (insertDim_dims f name l no mo b a) h0) rfl
  | reorder names => exact kept (reorder_names hs).1 rfl
  | stackSelf sd => exact stack_dim_unlim hdn hs h0 h
  | binopSelf op => exact kept (binop_names hs).1 rfl
  | maskGt q => cases hs; exact kept rfl rfl
  | eval t e => exact kept (evalInto_spec _ f g t e hs).1 rfl

/-- **C01 (surviving dimensions keep their unlimited flag), one step.** Whatever an operation of the sequences does —
cut, reduce, rename, remove, insert, stack — a dimension of the input that is still there afterwards (under the name the
operation gives it) has the flag it had. -/
theorem step_unlim (f g : File) (o : SOp) (hdn : DimsNodup f) (hd : Dom f o) (hs : o.run f = .ok g) :
    ∀ d ∈ g.dims, ∀ d0 ∈ f.dims, d.name = SOp.ren o d0.name → d.unlim = d0.unlim := by
  -- names are distinct before and after, so membership is lookup
  intro d hdm d0 hd0 hname
  refine step_dim? f g o hdn hs (File.dim?_of_mem hdn hd0) ?_
  rw [← hname]
  exact File.dim?_of_mem (step_dimsNodup f g o hdn hd hs) hdm

/-- the steps a sequence takes: (file before, operation, file after), up to the first operation that raises -/
def transitions (f : File) : List SOp → List (File × SOp × File)
  | [] => []
  | o :: rest => match o.run f with
    | .ok g => (f, o, g) :: transitions g rest
    | .error _ => []

theorem transitions_spec : ∀ (ops : List SOp) (f : File), Inv f → DomSeq f ops →
    ∀ t ∈ transitions f ops, Inv t.1 ∧ Dom t.1 t.2.1 ∧ t.2.1.run t.1 = .ok t.2.2
  | [], _, _, _, t, ht => by cases ht
  | o :: rest, f, h, hd, t, ht => by
    unfold transitions at ht
    split at ht
    · rename_i g hrun
      rcases List.mem_cons.mp ht with rfl | ht'
      · exact ⟨h, hd.1, hrun⟩
      · exact transitions_spec rest g (step_inv f g o h hd.1 hrun) (hd.2 g hrun) t ht'
    · cases ht

theorem states_eq_transitions : ∀ (ops : List SOp) (f : File), states f ops = (transitions f ops).map (·.2.2)
  | [], _ => rfl
  | o :: rest, f => by
    unfold states transitions
    cases o.run f with
    | ok g => exact congrArg (g :: ·) (states_eq_transitions rest g)
    | error _ => rfl

/-- **C01, any sequence.** Starting from a file that meets the representation invariant, every file that any finite
sequence of operations — each applied in its domain — goes through meets it: all variables' dimensions exist, their data
have exactly the lengths of those dimensions, and dimensions and variables stay keyed by distinct names.  By induction
over the sequence; no bound on its length, on the number or rank of the variables or on the lengths. -/
theorem seq_inv : ∀ (ops : List SOp) (f : File), Inv f → DomSeq f ops → ∀ g ∈ states f ops, Inv g := by
  intro ops f h hd g hg
  rw [states_eq_transitions] at hg
  obtain ⟨t, ht, rfl⟩ := List.mem_map.mp hg
  obtain ⟨hi, hdom, hrun⟩ := transitions_spec ops f h hd t ht
  exact step_inv _ _ _ hi hdom hrun

theorem seq_wf (ops : List SOp) (f : File) (h : Inv f) (hd : DomSeq f ops) : ∀ g ∈ states f ops, WF g :=
  fun g hg => (seq_inv ops f h hd g hg).1

/-- **C01 (unlimited flags along any sequence).** In every step of every sequence of in-domain operations from a file
that meets the invariant, each dimension that survives the step keeps its unlimited flag. -/
theorem seq_unlim : ∀ (ops : List SOp) (f : File), Inv f → DomSeq f ops →
    ∀ t ∈ transitions f ops, ∀ d ∈ t.2.2.dims, ∀ d0 ∈ t.1.dims, d.name = SOp.ren t.2.1 d0.name → d.unlim = d0.unlim := by
  intro ops f h hd t ht
  obtain ⟨hi, hdom, hrun⟩ := transitions_spec ops f h hd t ht
  exact step_unlim _ _ _ hi.2.1 hdom hrun

/-- non-vacuity of `seq_inv`: a pointwise selection, a reduction, a rename, an inserted dimension and a stack with itself,
each succeeding and changing the file -/
example :
    let f : File := ⟨[⟨"t", 2, true⟩, ⟨"y", 2, false⟩, ⟨"x", 2, false⟩],
      [⟨"A", ["t", "y", "x"], .node [.node [.node [.leaf (some 1), .leaf (some 2)], .node [.leaf (some 3), .leaf none]],
                                     .node [.node [.leaf (some 5), .leaf (some 6)], .node [.leaf (some 7), .leaf (some 8)]]], [], false, false⟩,
       ⟨"B", ["y"], .node [.leaf (some 7), .leaf (some 8)], [], false, false⟩], []⟩
    let ops : List SOp := [.slice [("y", .list [1, 0, 1]), ("x", .list [0, 0, 1])] "POINTS", .apply [("t", .mean)],
      .renameDim "y" "row", .insertDim "ens" 2 false false none none, .stackSelf "t"]
    (states f ops).map (fun g => (g.dims.map (fun d => (d.name, d.len)), g.vars.map (fun v => (v.name, v.dims)))) =
      [([("t", 2), ("y", 3), ("x", 3), ("POINTS", 3)], [("A", ["t", "POINTS"]), ("B", ["y"])]),
       ([("t", 1), ("y", 3), ("x", 3), ("POINTS", 3)], [("A", ["t", "POINTS"]), ("B", ["y"])]),
       ([("t", 1), ("x", 3), ("POINTS", 3), ("row", 3)], [("A", ["t", "POINTS"]), ("B", ["row"])]),
       ([("t", 1), ("x", 3), ("POINTS", 3), ("row", 3), ("ens", 2)], [("A", ["ens", "t", "POINTS"]), ("B", ["ens", "row"])]),
       ([("x", 3), ("POINTS", 3), ("row", 3), ("ens", 2), ("t", 2)], [("A", ["ens", "t", "POINTS"]), ("B", ["ens", "row"])])] := by
  decide +kernel

/-- the starting file of the example meets the invariant, and its first two operations are in their domains -/
example :
    let f : File := ⟨[⟨"t", 2, true⟩, ⟨"y", 2, false⟩, ⟨"x", 2, false⟩],
      [⟨"A", ["t", "y", "x"], .node [.node [.node [.leaf (some 1), .leaf (some 2)], .node [.leaf (some 3), .leaf none]],
                                     .node [.node [.leaf (some 5), .leaf (some 6)], .node [.leaf (some 7), .leaf (some 8)]]], [], false, false⟩,
       ⟨"B", ["y"], .node [.leaf (some 7), .leaf (some 8)], [], false, false⟩], []⟩
    Inv f ∧ Dom f (.slice [("y", .list [1, 0, 1]), ("x", .list [0, 0, 1])] "POINTS") ∧ Dom f (.apply [("t", .mean)]) := by
  refine ⟨⟨?_, ?_, ?_⟩, fun _ => ?_, ?_, ?_⟩
  · unfold WF VarWF
    decide +kernel
  · unfold DimsNodup
    decide +kernel
  · unfold NamesNodup
    decide +kernel
  · decide +kernel
  · decide +kernel
  · intro name fn h
    cases fnOf_single h
    exact Nat.zero_lt_one

/-- non-vacuity: an unlimited `t` cut, renamed and stacked keeps its flag; the inserted dimension is fixed -/
example :
    let f : File := ⟨[⟨"t", 2, true⟩, ⟨"x", 2, false⟩], [⟨"A", ["t", "x"], .node [.node [.leaf (some 1), .leaf (some 2)],
      .node [.leaf (some 3), .leaf none]], [], false, false⟩], []⟩
    let ops : List SOp := [.slice [("t", .slice none none (-1))] "POINTS", .renameDim "t" "time",
      .insertDim "ens" 2 false false none none, .stackSelf "time"]
    (transitions f ops).map (fun t => t.2.2.dims.map (fun d => (d.name, d.len, d.unlim))) =
      [[("t", 2, true), ("x", 2, false)], [("x", 2, false), ("time", 2, true)],
       [("x", 2, false), ("time", 2, true), ("ens", 2, false)], [("x", 2, false), ("ens", 2, false), ("time", 4, true)]] := by
  decide +kernel

end Props.C01
