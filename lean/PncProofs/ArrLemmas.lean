import PncModel.Arr
import PncProofs.ListLemmas

/-!
Basic facts about `Arr`. A shape is read as "a leaf" / "a node of that many sub-arrays of the rest shape" in place of
case analysis on the array; `atAxis f k` applies `f` to every list of sub-arrays at depth `k`, `concat k` appends those
lists pairwise. Under `PySlice`: the indices that Python's integer selectors and `range` produce.
-/
namespace Arr
variable {α : Type}

theorem hasShapeL_iff {sh : List Nat} {xs : List (Arr α)} :
    hasShapeL sh xs = true ↔ ∀ x ∈ xs, hasShape sh x = true := by
  induction xs with
  | nil => simp [hasShapeL]
  | cons x xs ih => rw [hasShapeL, Bool.and_eq_true, ih, List.forall_mem_cons]

theorem atAxisL_eq_map (f : List (Arr α) → List (Arr α)) (k : Nat) (xs : List (Arr α)) :
    atAxisL f k xs = xs.map (atAxis f k) := by
  induction xs with
  | nil => rfl
  | cons x xs ih => simp [atAxisL, ih]

theorem mapCellsL_eq_map (g : α → α) (xs : List (Arr α)) : mapCellsL g xs = xs.map (mapCells g) := by
  induction xs with
  | nil => rfl
  | cons x xs ih => simp [mapCellsL, ih]

theorem concatL_eq_zipWith (k : Nat) : ∀ (xs ys : List (Arr α)), concatL k xs ys = List.zipWith (concat k) xs ys
  | [], _ => by simp [concatL]
  | _ :: _, [] => by simp [concatL]
  | x :: xs, y :: ys => by simp [concatL, concatL_eq_zipWith k xs ys]

theorem hasShape_node {n : Nat} {sh : List Nat} {xs : List (Arr α)} :
    hasShape (n :: sh) (node xs) = true ↔ xs.length = n ∧ ∀ x ∈ xs, hasShape sh x = true := by
  rw [hasShape, Bool.and_eq_true, beq_iff_eq, hasShapeL_iff]

theorem hasShape_nil {a : Arr α} : hasShape [] a = true ↔ ∃ c, a = leaf c := by
  cases a with
  | leaf c => exact ⟨fun _ => ⟨c, rfl⟩, fun _ => rfl⟩
  | node xs => exact ⟨fun h => (by cases h), fun ⟨_, h⟩ => by cases h⟩

/-- `obtain ⟨xs, rfl, rfl, hx⟩ := hasShape_cons.mp h` replaces the case analysis on the array -/
theorem hasShape_cons {n : Nat} {sh : List Nat} {a : Arr α} :
    hasShape (n :: sh) a = true ↔ ∃ xs, a = node xs ∧ xs.length = n ∧ ∀ x ∈ xs, hasShape sh x = true := by
  cases a with
  | leaf c => exact ⟨fun h => (by cases h), fun ⟨_, h, _⟩ => by cases h⟩
  | node xs =>
    rw [hasShape_node]
    exact ⟨fun h => ⟨xs, rfl, h⟩, fun ⟨_, e, h⟩ => by cases e; exact h⟩

theorem get_node (xs : List (Arr α)) (i : Nat) (idx : List Nat) :
    get (node xs) (i :: idx) = (xs[i]?).bind (fun x => get x idx) := by
  simp only [get]
  cases xs[i]? <;> rfl

def AllPos (sh : List Nat) : Prop := ∀ n ∈ sh, 0 < n

theorem allPos_cons {n : Nat} {sh : List Nat} : AllPos (n :: sh) ↔ 0 < n ∧ AllPos sh := List.forall_mem_cons

theorem allPos_set (sh : List Nat) (k m : Nat) (hp : AllPos sh) (hm : 0 < m) : AllPos (sh.set k m) := by
  intro n hn
  rcases List.mem_or_eq_of_mem_set hn with h | h
  · exact hp n h
  · rw [h]
    exact hm

/-- `idx` is a valid multi-index for shape `sh` -/
def Valid : List Nat → List Nat → Prop
  | [], [] => True
  | i :: idx, n :: sh => i < n ∧ Valid idx sh
  | _, _ => False

theorem valid_nil {idx : List Nat} : Valid idx [] ↔ idx = [] := by
  cases idx <;> simp [Valid]

theorem valid_cons {idx : List Nat} {n : Nat} {sh : List Nat} :
    Valid idx (n :: sh) ↔ ∃ i rest, idx = i :: rest ∧ i < n ∧ Valid rest sh := by
  cases idx with
  | nil => simp [Valid]
  | cons i rest => exact ⟨fun h => ⟨i, rest, rfl, h⟩, fun ⟨_, _, e, h⟩ => by cases e; exact h⟩

theorem valid_getD_lt : ∀ (idx sh : List Nat) (k : Nat), Valid idx sh → k < sh.length → idx.getD k 0 < sh.getD k 0 := by
  intro idx sh
  induction sh generalizing idx with
  | nil => exact fun k _ hk => absurd hk (Nat.not_lt_zero k)
  | cons n sh ih =>
    intro k h hk
    obtain ⟨i, idx, rfl, hi, h⟩ := valid_cons.mp h
    cases k with
    | zero => exact hi
    | succ k => exact ih idx k h (Nat.lt_of_succ_lt_succ hk)

theorem valid_set : ∀ (idx sh : List Nat) (k m t : Nat), Valid idx (sh.set k m) → k < sh.length → t < sh.getD k 0 →
    Valid (idx.set k t) sh := by
  intro idx sh
  induction sh generalizing idx with
  | nil => exact fun k _ _ _ hk => absurd hk (Nat.not_lt_zero k)
  | cons n sh ih =>
    intro k m t h hk ht
    cases k with
    | zero =>
      obtain ⟨i, idx, rfl, _, h⟩ := valid_cons.mp h
      exact ⟨ht, h⟩
    | succ k =>
      obtain ⟨i, idx, rfl, hi, h⟩ := valid_cons.mp h
      exact ⟨hi, ih idx k m t h (Nat.lt_of_succ_lt_succ hk) ht⟩

theorem get_some_of_valid : ∀ (sh : List Nat) (a : Arr α) (idx : List Nat), hasShape sh a = true → Valid idx sh →
    ∃ c, get a idx = some c := by
  intro sh
  induction sh with
  | nil =>
    intro a idx h hv
    obtain ⟨c, rfl⟩ := hasShape_nil.mp h
    obtain rfl := valid_nil.mp hv
    exact ⟨c, rfl⟩
  | cons n sh ih =>
    intro a idx h hv
    obtain ⟨xs, rfl, rfl, hx⟩ := hasShape_cons.mp h
    obtain ⟨i, idx, rfl, hi, hv⟩ := valid_cons.mp hv
    rw [get_node, List.getElem?_eq_getElem hi]
    exact ih xs[i] idx (hx _ (List.getElem_mem hi)) hv

theorem ext_get : ∀ (sh : List Nat) (a b : Arr α), hasShape sh a = true → hasShape sh b = true →
    (∀ idx, Valid idx sh → get a idx = get b idx) → a = b := by
  intro sh
  induction sh with
  | nil =>
    intro a b ha hb h
    obtain ⟨x, rfl⟩ := hasShape_nil.mp ha
    obtain ⟨y, rfl⟩ := hasShape_nil.mp hb
    have h0 : some x = some y := h [] trivial
    rw [Option.some.inj h0]
  | cons n sh ih =>
    intro a b ha hb h
    obtain ⟨xs, rfl, rfl, hx⟩ := hasShape_cons.mp ha
    obtain ⟨ys, rfl, hl, hy⟩ := hasShape_cons.mp hb
    refine congrArg node (List.ext_getElem hl.symm ?_)
    intro i h1 h2
    apply ih xs[i] ys[i] (hx _ (List.getElem_mem h1)) (hy _ (List.getElem_mem h2))
    intro idx hv
    have := h (i :: idx) ⟨h1, hv⟩
    rwa [get_node, get_node, List.getElem?_eq_getElem h1, List.getElem?_eq_getElem h2] at this

theorem mem_pick {s : List Nat} {xs : List (Arr α)} {x : Arr α} (h : x ∈ pick s xs) : x ∈ xs := by
  obtain ⟨i, _, hi⟩ := List.mem_filterMap.mp h
  exact List.mem_of_getElem? hi

theorem pick_map_some {s : List Nat} {xs : List (Arr α)} (h : ∀ i ∈ s, i < xs.length) :
    s.map (fun i => xs[i]?) = (pick s xs).map some :=
  List.map_some_filterMap fun i hi => by simp [h i hi]

theorem pick_getElem? {s : List Nat} {xs : List (Arr α)} (h : ∀ i ∈ s, i < xs.length) (j : Nat) :
    (pick s xs)[j]? = (s[j]?).bind (fun i => xs[i]?) :=
  List.getElem?_of_map_eq_map_some (pick_map_some h) j

theorem pick_length {s : List Nat} {xs : List (Arr α)} (h : ∀ i ∈ s, i < xs.length) :
    (pick s xs).length = s.length :=
  List.filterMap_length_eq_length.mpr fun i hi => by simp [h i hi]

theorem pick_range' (xs : List (Arr α)) (lo n : Nat) (h : lo + n ≤ xs.length) :
    pick (List.range' lo n) xs = (xs.drop lo).take n := by
  induction n generalizing lo with
  | zero => rfl
  | succ n ih =>
    have hlo : lo < xs.length := Nat.lt_of_lt_of_le (Nat.lt_add_of_pos_right n.succ_pos) h
    rw [List.drop_eq_getElem_cons hlo, List.take_succ_cons, ← ih (lo + 1) (by omega), List.range'_succ, pick,
      List.filterMap_cons_some (List.getElem?_eq_getElem hlo)]
    rfl

theorem pick_range (xs : List (Arr α)) : pick (List.range xs.length) xs = xs := by
  rw [List.range_eq_range', pick_range' xs 0 xs.length (Nat.le_of_eq (Nat.zero_add _))]
  simp

@[simp] theorem atAxis_leaf (f : List (Arr α) → List (Arr α)) (k : Nat) (c : α) : atAxis f k (leaf c) = leaf c := by
  cases k <;> rfl

@[simp] theorem atAxis_zero (f : List (Arr α) → List (Arr α)) (xs : List (Arr α)) :
    atAxis f 0 (node xs) = node (f xs) := rfl

@[simp] theorem atAxis_succ (f : List (Arr α) → List (Arr α)) (k : Nat) (xs : List (Arr α)) :
    atAxis f (k + 1) (node xs) = node (xs.map (atAxis f k)) := by
  rw [atAxis, atAxisL_eq_map]

@[simp] theorem concat_leaf (k : Nat) (c : α) (b : Arr α) : concat k (leaf c) b = leaf c := by
  cases k <;> rfl

@[simp] theorem concat_zero (xs ys : List (Arr α)) : concat 0 (node xs) (node ys) = node (xs ++ ys) := rfl

@[simp] theorem concat_succ (k : Nat) (xs ys : List (Arr α)) :
    concat (k + 1) (node xs) (node ys) = node (List.zipWith (concat k) xs ys) := by
  rw [concat, concatL_eq_zipWith]

theorem atAxis_id : ∀ (k : Nat) (a : Arr α), atAxis (fun xs => xs) k a = a
  | k, leaf c => atAxis_leaf _ k c
  | 0, node xs => rfl
  | k + 1, node xs => by
    rw [atAxis_succ]
    exact congrArg node ((List.map_congr_left fun x _ => atAxis_id k x).trans (List.map_id xs))

theorem atAxis_comp (f g : List (Arr α) → List (Arr α)) : ∀ (k : Nat) (a : Arr α),
    atAxis f k (atAxis g k a) = atAxis (fun xs => f (g xs)) k a
  | k, leaf c => by simp only [atAxis_leaf]
  | 0, node xs => rfl
  | k + 1, node xs => by
    rw [atAxis_succ, atAxis_succ, atAxis_succ, List.map_map]
    exact congrArg node (List.map_congr_left fun x _ => atAxis_comp f g k x)

theorem concat_atAxis_append (f g : List (Arr α) → List (Arr α)) : ∀ (k : Nat) (a : Arr α),
    concat k (atAxis f k a) (atAxis g k a) = atAxis (fun xs => f xs ++ g xs) k a
  | k, leaf c => by simp only [atAxis_leaf, concat_leaf]
  | 0, node xs => rfl
  | k + 1, node xs => by
    rw [atAxis_succ, atAxis_succ, atAxis_succ, concat_succ, List.zipWith_map, List.zipWith_self]
    exact congrArg node (List.map_congr_left fun x _ => concat_atAxis_append f g k x)

theorem atAxis_congr (f g : List (Arr α) → List (Arr α)) : ∀ (sh : List Nat) (k : Nat) (a : Arr α),
    hasShape sh a = true → k < sh.length → (∀ xs : List (Arr α), xs.length = sh.getD k 0 → f xs = g xs) →
    atAxis f k a = atAxis g k a := by
  intro sh
  induction sh with
  | nil => exact fun k _ _ hk => absurd hk (Nat.not_lt_zero k)
  | cons m rest ih =>
    intro k a hs hk hfg
    obtain ⟨xs, rfl, rfl, hx⟩ := hasShape_cons.mp hs
    cases k with
    | zero => rw [atAxis_zero, atAxis_zero, hfg xs rfl]
    | succ k =>
      rw [atAxis_succ, atAxis_succ]
      exact congrArg node (List.map_congr_left fun x hxm => ih k x (hx x hxm) (Nat.lt_of_succ_lt_succ hk) hfg)

/-- `drop 0` stays: that is the form `concatAllG_windows … 0` and `offsetOf … 0` leave -/
theorem atAxis_window_full (sh : List Nat) (k : Nat) (a : Arr α) (hs : hasShape sh a = true) (hk : k < sh.length) {n : Nat}
    (hn : sh.getD k 0 ≤ n) : atAxis (fun xs => (xs.drop 0).take n) k a = a :=
  (atAxis_congr _ (fun xs => xs) sh k a hs hk fun _ hxs => List.take_of_length_le (hxs ▸ hn)).trans (atAxis_id k a)

/-! ### an axis selected by an index list

`orth`, `pointSel` and `zipSel` all treat such an axis as `(pick s xs).mapM F |>.map node`, with `F` the rest of the selection
(always defined for `orth`); shape and cells are stated for any `F`. -/

/-- index through the selection: position `j` on axis `k` of the result is position `sels[k][j]`
of the source (axes beyond the selector list are passed through) -/
def mapIdx : List (List Nat) → List Nat → Option (List Nat)
  | s :: rest, j :: idx => match s[j]?, mapIdx rest idx with
    | some i, some r => some (i :: r)
    | _, _ => none
  | [], idx => some idx
  | _ :: _, [] => none

/-- all indices of the selection are inside the array (what the file level guarantees) -/
def InRange : List (List Nat) → Arr α → Prop
  | s :: rest, node xs => (∀ i ∈ s, i < xs.length) ∧ ∀ x ∈ xs, InRange rest x
  | _ :: _, leaf _ => False
  | [], _ => True

/-- shape after an orthogonal selection -/
def selShape : List (List Nat) → List Nat → List Nat
  | s :: rest, _ :: sh => s.length :: selShape rest sh
  | _, sh => sh

theorem hasShape_mapM {β} {F : β → Option (Arr α)} {l : List β} {out : List (Arr α)} {sh : List Nat}
    (h : l.mapM F = some out) (hF : ∀ x ∈ l, ∀ y, F x = some y → hasShape sh y = true) :
    hasShape (l.length :: sh) (node out) = true := by
  have h := List.mapM_option_eq_some.mp h
  refine hasShape_node.mpr ⟨List.length_of_map_eq_map_some h, fun y hy => ?_⟩
  obtain ⟨x, hx, hxy⟩ := List.mem_of_map_eq_map_some h hy
  exact hF x hx y hxy

/-- `I` is the source index of the rest of the selection, the same below every sub-array -/
theorem get_mapM_pick {F : Arr α → Option (Arr α)} {s : List Nat} {xs out : List (Arr α)} {idx : List Nat}
    {I : Option (List Nat)} (hs : ∀ i ∈ s, i < xs.length) (h : (pick s xs).mapM F = some out)
    (hF : ∀ x ∈ xs, ∀ y, F x = some y → get y idx = I.bind (get x)) (j : Nat) :
    get (node out) (j :: idx) =
      (match s[j]?, I with
        | some i, some r => some (i :: r)
        | _, _ => none).bind (get (node xs)) := by
  have h := List.mapM_option_eq_some.mp h
  rw [get_node, List.getElem?_of_map_eq_map_some h, pick_getElem? hs]
  cases hsj : s[j]? with
  | none => rfl
  | some i =>
    have hi : i < xs.length := hs i (List.mem_of_getElem? hsj)
    obtain ⟨y, hy⟩ := List.exists_of_map_eq_map_some h
      (List.mem_filterMap.mpr ⟨i, List.mem_of_getElem? hsj, List.getElem?_eq_getElem hi⟩)
    rw [Option.bind_some, List.getElem?_eq_getElem hi, Option.bind_some, hy, Option.bind_some,
      hF _ (List.getElem_mem hi) y hy]
    cases I with
    | none => rfl
    | some r => simp only [Option.bind_some, get_node, List.getElem?_eq_getElem hi]

/-- **orthogonal selection, element-wise**: the element at `idx` of the result is the element of
the source at the per-axis selected indices, in the same order -/
theorem orth_get : ∀ (sels : List (List Nat)) (a : Arr α) (idx : List Nat), InRange sels a →
    get (orth sels a) idx = (mapIdx sels idx).bind (get a) := by
  intro sels
  induction sels with
  | nil =>
    intro a idx _
    rfl
  | cons s rest ih =>
    intro a idx h
    cases a with
    | leaf _ => exact h.elim
    | node xs =>
      obtain ⟨hs, hx⟩ := h
      cases idx with
      | nil => rfl
      | cons j idx =>
        have hout : (pick s xs).mapM (fun x => some (orth rest x)) = some ((pick s xs).map (orth rest)) :=
          List.mapM_some _ fun _ _ => rfl
        refine get_mapM_pick hs hout (fun x hxm y hy => ?_) j
        obtain rfl : orth rest x = y := Option.some.inj hy
        exact ih x idx (hx x hxm)

/-- **untouched variables**: selecting every index of every axis is the identity -/
theorem orth_full_id : ∀ (sh : List Nat) (a : Arr α), hasShape sh a = true →
    orth (sh.map List.range) a = a := by
  intro sh
  induction sh with
  | nil =>
    intro a _
    rfl
  | cons n rest ih =>
    intro a h
    obtain ⟨xs, rfl, rfl, hx⟩ := hasShape_cons.mp h
    rw [List.map_cons, orth, pick_range xs]
    exact congrArg node ((List.map_congr_left fun x hxm => ih x (hx x hxm)).trans (List.map_id xs))

/-- **shape**: the result of an in-range orthogonal selection has the selected lengths -/
theorem orth_shape : ∀ (sels : List (List Nat)) (sh : List Nat) (a : Arr α), hasShape sh a = true →
    InRange sels a → hasShape (selShape sels sh) (orth sels a) = true := by
  intro sels
  induction sels with
  | nil =>
    intro sh a h _
    exact h
  | cons s rest ih =>
    intro sh a h hr
    cases sh with
    | nil =>
      obtain ⟨c, rfl⟩ := hasShape_nil.mp h
      exact hr.elim
    | cons n sh =>
      obtain ⟨xs, rfl, rfl, hx⟩ := hasShape_cons.mp h
      obtain ⟨hs, hin⟩ := hr
      rw [orth, selShape, hasShape_node, List.length_map, pick_length hs]
      refine ⟨rfl, fun y hy => ?_⟩
      obtain ⟨x, hxm, rfl⟩ := List.mem_map.mp hy
      exact ih sh x (hx x (mem_pick hxm)) (hin x (mem_pick hxm))

theorem selShape_map {κ} (g : κ → List Nat) (h : κ → Nat) : ∀ (ds : List κ),
    selShape (ds.map g) (ds.map h) = ds.map (fun k => (g k).length)
  | [] => rfl
  | d :: ds => by simp [selShape, selShape_map g h ds]

theorem inRange_map {κ α} (g : κ → List Nat) (h : κ → Nat) : ∀ (ds : List κ) (a : Arr α),
    hasShape (ds.map h) a = true → (∀ k ∈ ds, ∀ i ∈ g k, i < h k) → InRange (ds.map g) a := by
  intro ds
  induction ds with
  | nil =>
    intro _ _ _
    trivial
  | cons d ds ih =>
    intro a hs hh
    obtain ⟨xs, rfl, hl, hx⟩ := hasShape_cons.mp hs
    refine ⟨fun i hi => ?_, fun x hxm => ih x (hx x hxm) fun k hk => hh k (List.mem_cons_of_mem _ hk)⟩
    rw [hl]
    exact hh d List.mem_cons_self i hi

end Arr

namespace PySlice

theorem normInt_lt (n : Nat) (i : Int) (k : Nat) (h : normInt n i = some k) : k < n := by
  unfold normInt at h
  by_cases h1 : 0 ≤ i ∧ i < n
  · rw [if_pos h1] at h
    obtain rfl := Option.some.inj h
    exact (Int.toNat_lt h1.1).mpr h1.2
  · rw [if_neg h1] at h
    by_cases h2 : i < 0 ∧ -i ≤ n
    · rw [if_pos h2] at h
      obtain rfl := Option.some.inj h
      omega
    · rw [if_neg h2] at h
      cases h

/-- `(d + st - 1) / st` is the number of entries of a `range` over a distance `d` with step `st` -/
theorem mul_lt_of_lt_ceilDiv {d st : Int} {j : Nat} (hst : 0 < st) (hj : j < ((d + st - 1) / st).toNat) :
    st * j < d := by
  have h1 : ((j : Int) + 1) * st ≤ d + st - 1 :=
    (Int.le_ediv_iff_mul_le hst).mp (Int.add_one_le_of_lt (Int.lt_toNat.mp hj))
  rw [Int.add_mul, Int.mul_comm] at h1
  omega

theorem mem_rangeList {s e st : Int} {k : Nat} (h : k ∈ rangeList s e st) :
    ∃ v : Int, k = v.toNat ∧ (0 < st ∧ s ≤ v ∧ v < e ∨ st < 0 ∧ e < v ∧ v ≤ s) := by
  unfold rangeList at h
  rcases Int.lt_trichotomy 0 st with hst | rfl | hst
  · rw [if_pos hst] at h
    obtain ⟨j, hj, rfl⟩ := List.mem_map.mp h
    rw [List.mem_range] at hj
    split at hj
    · have h0 : 0 ≤ st * (j : Int) := Int.mul_nonneg (Int.le_of_lt hst) (Int.natCast_nonneg j)
      exact ⟨_, rfl, .inl ⟨hst, Int.le_add_of_nonneg_right h0, Int.add_lt_of_lt_sub_left (mul_lt_of_lt_ceilDiv hst hj)⟩⟩
    · exact absurd hj (Nat.not_lt_zero j)
  · cases h
  · rw [if_neg (Int.lt_asymm hst), if_pos hst] at h
    obtain ⟨j, hj, rfl⟩ := List.mem_map.mp h
    rw [List.mem_range] at hj
    split at hj
    · have h0 : st * (j : Int) ≤ 0 := Int.mul_nonpos_of_nonpos_of_nonneg (Int.le_of_lt hst) (Int.natCast_nonneg j)
      have h1 := mul_lt_of_lt_ceilDiv (Int.neg_pos_of_neg hst) hj
      rw [Int.neg_mul] at h1
      exact ⟨_, rfl, .inr ⟨hst, by omega, by omega⟩⟩
    · exact absurd hj (Nat.not_lt_zero j)

theorem sliceBounds_inside (n : Nat) {a b st : Int} (hst : 0 < st) (ha : 0 ≤ a) (han : a ≤ n) (hb : 0 ≤ b) (hbn : b ≤ n) :
    sliceBounds n (some a) (some b) st = (a, b) := by
  unfold sliceBounds
  simp only [Int.not_lt.mpr (Int.le_of_lt hst), Int.not_lt.mpr ha, Int.not_lt.mpr hb, Int.not_lt.mpr han,
    Int.not_lt.mpr hbn, if_false]

theorem rangeList_unit (s e : Int) (hs : 0 ≤ s) :
    rangeList s e 1 = (List.range (e - s).toNat).map (fun k => s.toNat + k) := by
  have hc : (if e > s then ((e - s + 1 - 1) / 1).toNat else 0) = (e - s).toNat := by
    rw [Int.add_sub_cancel, Int.ediv_one]
    by_cases h : e > s
    · rw [if_pos h]
    · rw [if_neg h, Int.toNat_of_nonpos (Int.sub_nonpos_of_le (Int.not_lt.mp h))]
  rw [rangeList, if_pos Int.one_pos]
  dsimp only
  rw [hc]
  refine List.map_congr_left fun k _ => ?_
  rw [Int.one_mul, Int.toNat_add hs (Int.natCast_nonneg k), Int.toNat_natCast]

end PySlice
