import PncProofs.FileLemmas

/-!
# Lemmas about the namespaces of `eval` and `pncexpr` (python `dict` assignment, update, fill-if-free)
-/
namespace PFile

theorem Env.get_set (e : Env) (k k' : String) (b : Bound) :
    (e.set k b).get k' = if k = k' then some b else e.get k' := by
  induction e with
  | nil => simp only [Env.set, Env.get, beq_iff_eq]
  | cons p e ih =>
    unfold Env.set
    split
    · rename_i hp
      rw [Env.get, Env.get, eq_of_beq hp]
      simp only [beq_iff_eq]
      by_cases hk : k = k'
      · rw [if_pos hk, if_pos hk]
      · rw [if_neg hk, if_neg hk, if_neg hk]
    · -- the pair in front stays; if its key is `k'`, then `k' ≠ k`
      rename_i hp
      rw [Env.get, Env.get, ih]
      simp only [beq_iff_eq]
      by_cases hk : k = k'
      · rw [if_pos hk, if_pos hk, if_neg (fun h => hp (beq_iff_eq.mpr (h.trans hk.symm)))]
      · rw [if_neg hk, if_neg hk]

theorem Env.get_set_self (e : Env) (k : String) (b : Bound) : (e.set k b).get k = some b := by
  rw [Env.get_set, if_pos rfl]

theorem Env.get_set_ne (e : Env) (k k' : String) (b : Bound) (hne : k' ≠ k) : (e.set k b).get k' = e.get k' := by
  rw [Env.get_set, if_neg (Ne.symm hne)]

/-! `Env.update` and `Env.fill` are folds of assignments: what every assignment keeps, they keep (`List.foldlRecOn`). -/

theorem Env.get_update_not_mem (bs : List (String × Bound)) (e : Env) (k : String) (h : ∀ p ∈ bs, p.1 ≠ k) :
    (e.update bs).get k = e.get k :=
  List.foldlRecOn (motive := fun (e' : Env) => e'.get k = e.get k) bs _ rfl
    (fun e' he' p hp => (Env.get_set_ne e' p.1 k p.2 (h p hp).symm).trans he')

theorem Env.get_update_mem (bs : List (String × Bound)) (e : Env) (k : String) (b : Bound)
    (hnd : (bs.map (·.1)).Nodup) (hm : (k, b) ∈ bs) : (e.update bs).get k = some b := by
  -- the assignments after the one to `k` are to other keys
  obtain ⟨l₁, l₂, rfl⟩ := List.append_of_mem hm
  rw [List.map_append, List.map_cons, List.nodup_append, List.nodup_cons] at hnd
  unfold Env.update
  rw [List.foldl_append, List.foldl_cons]
  exact (Env.get_update_not_mem l₂ _ k (fun q hq hk => hnd.2.1.1 (List.mem_map.mpr ⟨q, hq, hk⟩))).trans (Env.get_set_self _ k b)

theorem Env.get_fill_of_some (bs : List (String × Bound)) (e : Env) (k : String) (h : (e.get k).isSome) :
    (e.fill bs).get k = e.get k := by
  refine List.foldlRecOn (motive := fun (e' : Env) => e'.get k = e.get k) bs _ rfl (fun e' he' p _ => ?_)
  split
  · exact he'
  · rename_i hp
    rw [Env.get_set_ne, he']
    exact fun hk => hp (hk ▸ he' ▸ h)

/-- the variables the file knows by name are the only `fileVar` bindings -/
def Sound (f : File) (e : Env) : Prop := ∀ k v, e.get k = some (.fileVar v) → f.var? k = some v

theorem sound_nil (f : File) : Sound f [] :=
  fun _ _ h => nomatch h

theorem sound_set (f : File) (e : Env) (k : String) (b : Bound) (h : Sound f e)
    (hb : ∀ v, b = .fileVar v → f.var? k = some v) : Sound f (e.set k b) := by
  intro k' v hg
  rw [Env.get_set] at hg
  split at hg
  · rename_i hk
    exact hk ▸ hb v (Option.some.inj hg)
  · exact h k' v hg

def SoundBinds (f : File) (bs : List (String × Bound)) : Prop := ∀ p ∈ bs, ∀ v, p.2 = .fileVar v → f.var? p.1 = some v

theorem sound_update (f : File) (bs : List (String × Bound)) (e : Env) (h : Sound f e) (hb : SoundBinds f bs) :
    Sound f (e.update bs) :=
  List.foldlRecOn (motive := Sound f) bs _ h (fun e' he' p hp => sound_set f e' p.1 p.2 he' (hb p hp))

theorem sound_fill (f : File) (bs : List (String × Bound)) (e : Env) (h : Sound f e) (hb : SoundBinds f bs) :
    Sound f (e.fill bs) := by
  refine List.foldlRecOn (motive := Sound f) bs _ h (fun e' he' p hp => ?_)
  split
  · exact he'
  · exact sound_set f e' p.1 p.2 he' (hb p hp)

theorem others_sound (f : File) (tag : String) (ns : List String) : SoundBinds f (others tag ns) := by
  intro p hp v hv
  obtain ⟨n, _, rfl⟩ := List.mem_map.mp hp
  cases hv

theorem Env.get_update_others {tag : String} {ns : List String} (e : Env) {k : String} (h : k ∉ ns) :
    (e.update (others tag ns)).get k = e.get k := by
  refine Env.get_update_not_mem _ e k (fun p hp hk => ?_)
  obtain ⟨m, hm, rfl⟩ := List.mem_map.mp hp
  exact h (hk ▸ hm)

theorem fileBinds_sound (f : File) (hn : NamesNodup f) : SoundBinds f (fileBinds f) := by
  intro p hp v hv
  obtain ⟨w, hw, rfl⟩ := List.mem_map.mp hp
  cases hv
  exact File.var?_of_mem hn hw

theorem Env.get_update_fileBinds {f : File} (hn : NamesNodup f) (e : Env) {n : String} {v : Var} (hv : f.var? n = some v) :
    (e.update (fileBinds f)).get n = some (.fileVar v) := by
  obtain ⟨hmem, rfl⟩ := File.var?_mem hv
  refine Env.get_update_mem _ e _ _ ?_ (List.mem_map_of_mem hmem)
  unfold fileBinds
  rw [List.map_map]
  exact hn

theorem sound_nsStep (f : File) (hn : NamesNodup f) (helpers consts : List String) (e : Env) (h : Sound f e) (s : NsStep) :
    Sound f (nsStep f helpers consts e s) := by
  cases s with
  | fileVars => exact sound_update f _ _ h (fileBinds_sound f hn)
  | helpers => exact sound_update f _ _ h (others_sound f _ _)
  | consts => exact sound_update f _ _ h (others_sound f _ _)
  | fillAttrs => exact sound_fill f _ _ h (others_sound f _ _)
  | attrs => exact sound_update f _ _ h (others_sound f _ _)
  | set n => exact sound_set f e n _ h (fun v hv => nomatch hv)
  | copyTargets => exact h
  | unknown _ => exact h

/-- whatever statements a front end runs, in whatever order -/
theorem sound_steps (f : File) (hn : NamesNodup f) (helpers consts : List String) (steps : List NsStep) (e : Env)
    (h : Sound f e) : Sound f (steps.foldl (nsStep f helpers consts) e) :=
  List.foldlRecOn (motive := Sound f) steps _ h (fun e' he' s _ => sound_nsStep f hn helpers consts e' he' s)

/-- the namespace of `pncexpr` as the source has it now (`Generated.pncexprSteps`) is: the file's variables, the helper
functions, the constants, the file's variables again, the reserved names, the attributes that are still free. A change of
the order of these statements in the source changes the generated list and this equation stops checking. -/
theorem pncexprEnv_closed (f : File) (helpers consts : List String) :
    pncexprEnv f helpers consts =
      (((((Env.update [] (fileBinds f)).update (others "helper" helpers)).update (others "const" consts)).update
        (fileBinds f)).update (others "module" ["ifile", "infile", "np", "datetime"])).fill (others "attr" f.attrs) := by
  -- the fold over the generated list is taken apart first: a bare `rfl` finds the same, slowly
  dsimp only [pncexprEnv, Generated.pncexprSteps, List.foldl_cons, List.foldl_nil, nsStep]
  rfl

theorem pncexprReserved_closed : pncexprReserved = ["ifile", "infile", "np", "datetime"] :=
  rfl

theorem evalEnv_closed (f : File) :
    evalEnv f = ((Env.update [] (fileBinds f)).fill (others "attr" f.attrs)).update (others "module" ["np", "self", "outf"]) :=
  rfl

theorem evalReserved_closed : evalReserved = ["np", "self", "outf"] :=
  rfl

end PFile
