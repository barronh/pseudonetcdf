import PncModel.Words
import PncProofs.ListLemmas

/-!
Fortran framing, for every format built on `encodeRecs`: what is read off `frame p ++ more` (length, marker, payload,
what is behind it), lifted to encodings, to records of one length and to a framed record at a position of a file.
-/
namespace Words

theorem frame_length (p : List Word) : (frame p).length = p.length + 2 := by
  simp [frame]

theorem frame_eq_cons (p more : List Word) :
    frame p ++ more = (4 * p.length) :: (p ++ (4 * p.length) :: more) := by
  simp [frame]

theorem frame_markers (p : List Word) : (frame p).head? = (frame p).getLast? := by
  rw [show frame p = ([4 * p.length] ++ p) ++ [4 * p.length] from rfl, List.getLast?_append]
  rfl

theorem frame_append_ne_nil (p more : List Word) : frame p ++ more ≠ [] := by
  rw [frame_eq_cons]
  exact List.cons_ne_nil _ _

theorem encodeRecs_nil : encodeRecs [] = [] := rfl

theorem encodeRecs_cons (p : List Word) (ps : List (List Word)) : encodeRecs (p :: ps) = frame p ++ encodeRecs ps := rfl

theorem encodeRecs_eq_nil {ps : List (List Word)} (h : encodeRecs ps = []) : ps = [] := by
  cases ps with
  | nil => rfl
  | cons p ps => exact absurd h (frame_append_ne_nil p _)

theorem encodeRecs_append (a b : List (List Word)) : encodeRecs (a ++ b) = encodeRecs a ++ encodeRecs b := by
  simp [encodeRecs]

theorem encodeRecs_flatten (pss : List (List (List Word))) :
    encodeRecs pss.flatten = (pss.map encodeRecs).flatten := by
  induction pss with
  | nil => rfl
  | cons ps pss ih => rw [List.flatten_cons, encodeRecs_append, ih, List.map_cons, List.flatten_cons]

theorem headD_frame (p more : List Word) : (frame p ++ more).headD 0 = 4 * p.length := rfl

theorem unframe_frame (p rest : List Word) : unframe (frame p ++ rest) = some (p, rest) := by
  simp [frame, unframe]

theorem take_frame (p more : List Word) : (frame p ++ more).take (p.length + 2) = frame p := by
  rw [← frame_length p, List.take_left]

theorem drop_frame (p more : List Word) : (frame p ++ more).drop (p.length + 2) = more := by
  rw [← frame_length p, List.drop_left]

theorem take_payload_frame (p more : List Word) {j : Nat} (hj : j ≤ p.length) :
    ((frame p ++ more).drop 1).take j = p.take j := by
  rw [frame_eq_cons, List.drop_succ_cons, List.drop_zero, List.take_append_of_le_length hj]

theorem payload_frame (p more : List Word) : ((frame p ++ more).drop 1).take p.length = p := by
  rw [take_payload_frame p more (Nat.le_refl _), List.take_length]

theorem getD_frame_payload (p more : List Word) (i : Nat) (hi : i < p.length) :
    (frame p ++ more).getD (i + 1) 0 = p.getD i 0 := by
  rw [frame_eq_cons, List.getD_cons_succ, List.getD_eq_getElem?_getD, List.getD_eq_getElem?_getD,
    List.getElem?_append_left hi]

theorem parse_encode (ps : List (List Word)) (fuel : Nat) (h : (encodeRecs ps).length ≤ fuel) :
    parseRecords fuel (encodeRecs ps) = some ps := by
  induction ps generalizing fuel with
  | nil => rw [encodeRecs_nil, parseRecords]
  | cons p ps ih =>
    rw [encodeRecs_cons, List.length_append, frame_length] at h
    obtain ⟨fuel, rfl⟩ : ∃ k, fuel = k + 1 := ⟨fuel - 1, by omega⟩
    -- written with `::`, the words fall under the third clause of `parseRecords`
    rw [encodeRecs_cons, frame_eq_cons, parseRecords, ← frame_eq_cons, unframe_frame]
    · exact congrArg (Option.map (p :: ·)) (ih fuel (by omega))
    · exact List.cons_ne_nil _ _

theorem encodeRecs_length (ps : List (List Word)) :
    (encodeRecs ps).length = (ps.map List.length).sum + 2 * ps.length := by
  induction ps with
  | nil => rfl
  | cons p ps ih =>
    rw [encodeRecs_cons, List.length_append, frame_length, ih, List.map_cons, List.sum_cons, List.length_cons]
    omega

theorem encodeRecs_cons_length (p : List Word) (ps : List (List Word)) :
    (encodeRecs (p :: ps)).length = (p.length + 2) + (encodeRecs ps).length := by
  rw [encodeRecs_cons, List.length_append, frame_length]

theorem frames_uniform {n : Nat} {ps : List (List Word)} (h : ∀ p ∈ ps, p.length = n) :
    ∀ c ∈ ps.map frame, c.length = n + 2 := by
  intro c hc
  obtain ⟨p, hp, rfl⟩ := List.mem_map.mp hc
  rw [frame_length, h p hp]

theorem encodeRecs_length_uniform {n : Nat} {ps : List (List Word)} (h : ∀ p ∈ ps, p.length = n) :
    (encodeRecs ps).length = ps.length * (n + 2) := by
  rw [encodeRecs, List.length_flatten_uniform (frames_uniform h), List.length_map]

theorem drop_encodeRecs_uniform {n : Nat} {ps : List (List Word)} (h : ∀ p ∈ ps, p.length = n) (j : Nat) :
    (encodeRecs ps).drop (j * (n + 2)) = encodeRecs (ps.drop j) := by
  rw [encodeRecs, List.drop_flatten_uniform (frames_uniform h), ← List.map_drop]
  rfl

theorem slice_encodeRecs_uniform {n : Nat} {ps : List (List Word)} (h : ∀ p ∈ ps, p.length = n) {t : Nat}
    (ht : t < ps.length) {a b : Nat} (hab : a + b ≤ n) :
    ((encodeRecs ps).drop (t * (n + 2) + (a + 1))).take b = (ps[t].drop a).take b := by
  have hl := h _ (List.getElem_mem ht)
  have hp : a + b ≤ (ps[t].drop a).length + a := by rw [List.length_drop]; omega
  rw [encodeRecs, List.slice_flatten_uniform (frames_uniform h) (by simpa using ht) (by omega), List.getElem_map, frame,
    List.append_assoc, List.singleton_append, List.drop_succ_cons, List.drop_append_of_le_length (by omega),
    List.take_append_of_le_length (by omega)]

/-! ### a framed record at word `pos` of a file: `ws.drop pos = frame r ++ rest` -/

section at_position
variable {ws r rest : List Word} {pos : Nat}

theorem length_of_drop (h : ws.drop pos = frame r ++ rest) : ws.length = pos + (r.length + 2) + rest.length := by
  have := congrArg List.length h
  rw [List.length_drop, List.length_append, frame_length] at this
  omega

theorem getD_marker (h : ws.drop pos = frame r ++ rest) : ws.getD pos 0 = 4 * r.length := by
  rw [List.getD_eq_getElem?_getD, ← Nat.add_zero pos, List.getElem?_of_drop h]
  rfl

theorem getD_payload (h : ws.drop pos = frame r ++ rest) {i : Nat} (hi : i < r.length) :
    ws.getD (pos + 1 + i) 0 = r.getD i 0 := by
  rw [Nat.add_assoc, List.getD_eq_getElem?_getD, List.getElem?_of_drop h, ← List.getD_eq_getElem?_getD, Nat.add_comm,
    getD_frame_payload _ _ _ hi]

theorem slice_payload (h : ws.drop pos = frame r ++ rest) : (ws.drop (pos + 1)).take r.length = r := by
  rw [← List.drop_drop, h, payload_frame]

theorem drop_next (h : ws.drop pos = frame r ++ rest) {n : Nat} (hn : r.length = n) : ws.drop (pos + (n + 2)) = rest := by
  rw [← List.drop_drop, h, ← hn, drop_frame]

end at_position

theorem wordChar_charWord (c : Nat) : wordChar (charWord c) = c := by
  unfold wordChar charWord
  omega

end Words
