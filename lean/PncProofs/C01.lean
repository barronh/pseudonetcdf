import Batteries.Logic
import PncProofs.C03
import PncProofs.FileLemmas

/-!
# C01 — every operation yields a structurally well-formed file: property theorems

`WF f`: every variable's dimension names are dimensions of the file and its nested data have
exactly the shape given by the lengths of those dimensions, in order.
-/
namespace Props.C01
open Arr PFile Props.C03

def VarWF (f : File) (v : Var) : Prop :=
  (∀ k ∈ v.dims, (f.dim? k).isSome = true) ∧ hasShape (f.shapeOf v) v.data = true

def WF (f : File) : Prop := ∀ v ∈ f.vars, VarWF f v

/-- tabulated data always have the tabulated shape -/
theorem build_hasShape {α} : ∀ (sh : List Nat) (g : List Nat → α), hasShape sh (build sh g) = true
  | [], _ => rfl
  | n :: rest, g => by
    refine hasShape_node.mpr ⟨by simp, fun x hx => ?_⟩
    obtain ⟨i, _, rfl⟩ := List.mem_map.mp hx
    exact build_hasShape rest _

theorem mapCells_hasShape {α} (g : α → α) : ∀ (sh : List Nat) (a : Arr α), hasShape sh a = true →
    hasShape sh (mapCells g a) = true
  | [], a, h => by
    obtain ⟨c, rfl⟩ := hasShape_nil.mp h
    rfl
  | n :: sh, a, h => by
    obtain ⟨xs, rfl, rfl, hx⟩ := hasShape_cons.mp h
    rw [mapCells, mapCellsL_eq_map]
    refine hasShape_node.mpr ⟨List.length_map _, fun y hy => ?_⟩
    obtain ⟨x, hxm, rfl⟩ := List.mem_map.mp hy
    exact mapCells_hasShape g sh x (hx x hxm)

theorem mapCellsL_hasShape {α} (g : α → α) : ∀ (sh : List Nat) (xs : List (Arr α)),
    hasShapeL sh xs = true → hasShapeL sh (mapCellsL g xs) = true := by
  intro sh xs h
  rw [mapCellsL_eq_map, hasShapeL_iff]
  intro y hy
  obtain ⟨x, hx, rfl⟩ := List.mem_map.mp hy
  exact mapCells_hasShape g sh x (hasShapeL_iff.mp h x hx)

theorem zipCells_hasShape (g : Cell → Cell → Cell) : ∀ (sh : List Nat) (a b : Arr Cell),
    hasShape sh a = true → hasShape sh b = true → hasShape sh (zipCells g a b) = true
  | [], a, b, ha, hb => by
    obtain ⟨x, rfl⟩ := hasShape_nil.mp ha
    obtain ⟨y, rfl⟩ := hasShape_nil.mp hb
    rfl
  | n :: sh, a, b, ha, hb => by
    obtain ⟨xs, rfl, rfl, hx⟩ := hasShape_cons.mp ha
    obtain ⟨ys, rfl, hl, hy⟩ := hasShape_cons.mp hb
    rw [zipCells, zipCellsL_eq_zipWith]
    refine hasShape_node.mpr ⟨by simp [hl], fun z hz => ?_⟩
    obtain ⟨i, hi⟩ := List.getElem?_of_mem hz
    obtain ⟨x, y, hxi, hyi, rfl⟩ := List.getElem?_zipWith_eq_some.mp hi
    exact zipCells_hasShape g sh x y (hx x (List.mem_of_getElem? hxi)) (hy y (List.mem_of_getElem? hyi))

theorem zipCellsL_hasShape (g : Cell → Cell → Cell) : ∀ (sh : List Nat) (xs ys : List (Arr Cell)),
    xs.length = ys.length → hasShapeL sh xs = true → hasShapeL sh ys = true →
    (zipCellsL g xs ys).length = xs.length ∧ hasShapeL sh (zipCellsL g xs ys) = true := by
  intro sh xs ys hl hx hy
  have := zipCells_hasShape g (xs.length :: sh) (.node xs) (.node ys) (hasShape_node.mpr ⟨rfl, hasShapeL_iff.mp hx⟩)
    (hasShape_node.mpr ⟨hl.symm, hasShapeL_iff.mp hy⟩)
  rw [zipCells, hasShape_node] at this
  exact ⟨this.1, hasShapeL_iff.mpr this.2⟩

/-- a successful lookup, in the form `varWF_of` asks for -/
theorem hasDim_of_dim? {g : File} {k : String} {d : Dim} (h : g.dim? k = some d) :
    (g.dim? k).isSome = true ∧ g.dimLen k = d.len :=
  ⟨by rw [h]; rfl, File.dimLen_of_dim? h⟩

theorem VarWF.dim {f : File} {v : Var} (h : VarWF f v) {k : String} (hk : k ∈ v.dims) : ∃ d, f.dim? k = some d :=
  Option.isSome_iff_exists.mp (h.1 k hk)

/-- lengths `L` that the lookups in the new file and the shape of the new data agree on; the `*_wf` whose operation
changes lengths or the dimension list go through this, those that keep the dimension list through `varWF_congr` -/
theorem varWF_of {g : File} {v : Var} (L : String → Nat)
    (hk : ∀ k ∈ v.dims, (g.dim? k).isSome = true ∧ g.dimLen k = L k)
    (hs : hasShape (v.dims.map L) v.data = true) : VarWF g v := by
  refine ⟨fun k hk' => (hk k hk').1, ?_⟩
  unfold File.shapeOf
  rw [List.map_congr_left (fun k hk' => (hk k hk').2)]
  exact hs

theorem varWF_build {g : File} (v : Var) (ds : List String) (L : String → Nat) (c : List Nat → Cell)
    (hk : ∀ k ∈ ds, (g.dim? k).isSome = true ∧ g.dimLen k = L k) :
    VarWF g { v with dims := ds, data := build (ds.map L) c } :=
  varWF_of L hk (build_hasShape _ _)

theorem varWF_congr {f g : File} (hd : g.dims = f.dims) {v : Var} (h : VarWF f v) : VarWF g v := by
  unfold VarWF File.shapeOf File.dimLen File.dim? at h ⊢
  rwa [hd]

theorem wf_map {f g : File} (φ : Var → Var) (hv : g.vars = f.vars.map φ) (h : WF f)
    (step : ∀ v ∈ f.vars, VarWF f v → VarWF g (φ v)) : WF g := by
  intro v' hv'
  rw [hv] at hv'
  obtain ⟨v, hvm, rfl⟩ := List.mem_map.mp hv'
  exact step v hvm (h v hvm)

/-- **C01 (mask).** mask() returns a well-formed file -/
theorem mask_wf (f : File) (m : MaskSpec) (coords : List String) (mc : Bool)
    (hm : ∀ ds, m.whereDims = some ds → hasShape (ds.map f.dimLen) m.whereBits = true) (h : WF f) :
    WF (maskFile f m coords mc) := by
  refine wf_map _ rfl h (fun v _ hv => ?_)
  dsimp only
  by_cases hc : coords.contains v.name = true ∧ (!mc) = true
  · rw [if_pos hc]
    exact hv
  · rw [if_neg hc]
    refine varWF_of f.dimLen (fun k hk => ⟨hv.1 k hk, rfl⟩) ?_
    cases hw : m.whereDims == some v.dims with
    | true => exact zipCells_hasShape _ _ _ _ hv.2 (hm _ (eq_of_beq hw))
    | false => exact mapCells_hasShape _ _ _ hv.2

theorem insertDim_dims (f : File) (name : String) (len : Nat) (no mo : Bool) (b a : Option String) :
    (insertDimFile f name len no mo b a).dims =
      f.dims ++ if (f.dim? name).isSome then [] else [⟨name, len, false⟩] := by
  unfold insertDimFile
  cases (f.dim? name).isSome with
  | true => exact (List.append_nil _).symm
  | false => rfl

theorem insertDim_vars (f : File) (name : String) (len : Nat) (no mo : Bool) (b a : Option String) :
    ∃ φ : Var → Var, (insertDimFile f name len no mo b a).vars = f.vars.map φ ∧ ∀ v, φ v = v ∨ ∃ bi c,
      φ v = { v with dims := v.dims.take bi ++ [name] ++ v.dims.drop bi,
                     data := build ((v.dims.take bi ++ [name] ++ v.dims.drop bi).map (fun k =>
                       if k == name then (if (f.dim? name).isSome then f.dimLen name else len) else f.dimLen k)) c } := by
  refine ⟨_, rfl, fun v => ?_⟩
  -- the test is written out: `split` would go through the other branch, the whole insertion, and is slow
  by_cases hc : (no = true ∧ v.dims.contains name = true) ∨ (mo = true ∧ (v.dims.length == 1) = true)
  · exact .inl (if_pos hc)
  · dsimp only
    rw [if_neg hc]
    split
    · exact .inl rfl
    · exact .inr ⟨_, _, rfl⟩

/-- **C01 (insertDimension)** without a side condition: a name that is a dimension already is put on the variables with
its own length -/
theorem insertDim_wf_all (f : File) (name : String) (len : Nat) (no mo : Bool) (b a : Option String)
    (h : WF f) : WF (insertDimFile f name len no mo b a) := by
  have hdims := insertDim_dims f name len no mo b a
  obtain ⟨φ, hvars, hφ⟩ := insertDim_vars f name len no mo b a
  generalize insertDimFile f name len no mo b a = g at hdims hvars ⊢
  refine wf_map φ hvars h (fun v _ hv => ?_)
  have hold : ∀ k, (f.dim? k).isSome = true → (g.dim? k).isSome = true ∧ g.dimLen k = f.dimLen k := by
    intro k hk
    obtain ⟨d, hd⟩ := Option.isSome_iff_exists.mp hk
    rw [File.dimLen_of_dim? hd]
    exact hasDim_of_dim? (File.dim?_append_old hdims hd)
  obtain e | ⟨bi, c, e⟩ := hφ v
  · rw [e]
    exact varWF_of f.dimLen (fun k hk => hold k (hv.1 k hk)) hv.2
  · rw [e]
    refine varWF_build v _ _ _ (fun k hk => ?_)
    by_cases hkn : k = name
    · rw [hkn, if_pos (beq_iff_eq.mpr rfl)]
      cases hd : f.dim? name with
      | some d =>
        rw [Option.isSome_some, if_pos rfl, File.dimLen_of_dim? hd]
        exact hasDim_of_dim? (File.dim?_append_old hdims hd)
      | none =>
        rw [Option.isSome_none, if_neg Bool.false_ne_true]
        rw [hd, Option.isSome_none, if_neg Bool.false_ne_true] at hdims
        exact hasDim_of_dim? (File.dim?_append_one (e := ⟨name, len, false⟩) hdims hd)
    · rw [if_neg (mt eq_of_beq hkn)]
      refine hold k (hv.1 k ?_)
      rcases List.mem_append.mp hk with hk | hk
      · rcases List.mem_append.mp hk with hk | hk
        · exact List.mem_of_mem_take hk
        · exact absurd (List.mem_singleton.mp hk) hkn
      · exact List.mem_of_mem_drop hk

/-- **C01 (insertDimension).** the file after inserting a new dimension is well-formed whenever the
new name is not yet a dimension -/
theorem insertDim_wf (f : File) (name : String) (len : Nat) (no mo : Bool) (b a : Option String)
    (hnew : f.dim? name = none) (h : WF f) : WF (insertDimFile f name len no mo b a) :=
  insertDim_wf_all f name len no mo b a h

/-- **C01 (removeSingleton / reorderDimensions).** Variables rebuilt by tabulation always carry the
shape of their new dimension tuple (this is what makes both operations shape-correct). -/
theorem rebuilt_shape (f : File) (newdims : List String) (g : List Nat → Cell) :
    hasShape (newdims.map f.dimLen) (build (newdims.map f.dimLen) g) = true :=
  build_hasShape _ _

theorem subset_ok {f r : File} {keys : List String} {ex : Bool} (hs : subsetFile f keys ex = .ok r) :
    ∃ ks, r = { f with vars := (uniq ks).filterMap f.var? } := by
  unfold subsetFile at hs
  dsimp only at hs
  exact ⟨_, (Except.ok.inj (Except.ok_of_ite hs).2).symm⟩

/-- **C01 (subsetVariables).** -/
theorem subset_wf (f f' : File) (keys : List String) (ex : Bool) (h : WF f)
    (hs : subsetFile f keys ex = .ok f') : WF f' := by
  obtain ⟨ks, rfl⟩ := subset_ok hs
  intro v hv
  obtain ⟨k, _, hk⟩ := List.mem_filterMap.mp hv
  exact varWF_congr rfl (h v (File.var?_mem hk).1)

theorem renameVar_ok {f r : File} {old new : String} (hs : renameVarFile f old new = .ok r) :
    ∃ v0 vs, f.var? old = some v0 ∧ r = { f with vars := vs } ∧
      (vs = f.vars.filter (fun w => w.name != old) ∨
       vs = (f.vars.filter (fun w => w.name != old)).map (fun w => if w.name == new then { v0 with name := new } else w) ∨
       vs = f.vars.filter (fun w => w.name != old && w.name != new) ++ [{ v0 with name := new }]) := by
  unfold renameVarFile at hs
  split at hs
  · cases hs
  · refine ⟨_, _, ‹_›, (Except.ok.inj hs).symm, ?_⟩
    cases old == new with
    | true => exact .inl (if_pos rfl)
    | false =>
      rw [if_neg Bool.false_ne_true]
      cases (f.var? new).isSome with
      | true => exact .inr (.inl (if_pos rfl))
      | false => exact .inr (.inr (if_neg Bool.false_ne_true))

/-- **C01 (renameVariable).** -/
theorem renameVar_wf (f f' : File) (old new : String) (h : WF f)
    (hs : renameVarFile f old new = .ok f') : WF f' := by
  obtain ⟨v0, vs, hv, rfl, hvs⟩ := renameVar_ok hs
  have hren : VarWF f { v0 with name := new } := h v0 (File.var?_mem hv).1
  intro v hvm
  apply varWF_congr (f := f) rfl
  rcases hvs with rfl | rfl | rfl
  · exact h v (List.mem_filter.mp hvm).1
  · obtain ⟨w, hw, rfl⟩ := List.mem_map.mp hvm
    split
    · exact hren
    · exact h w (List.mem_filter.mp hw).1
  · rcases List.mem_append.mp hvm with h1 | h2
    · exact h v (List.mem_filter.mp h1).1
    · rw [List.mem_singleton.mp h2]
      exact hren

theorem binop_ok {op : Op} {f1 f2 r : File} {coords : List String} (hs : binopFile op f1 f2 coords = .ok r) :
    r = { f1 with vars := f1.vars.map (binopVar op f1 f2 coords) } := by
  unfold binopFile at hs
  exact (Except.ok.inj (Except.ok_of_ite hs).2).symm

theorem binopVar_cases (op : Op) (f1 f2 : File) (coords : List String) (v : Var) :
    binopVar op f1 f2 coords v = v ∨ ∃ w c attrs, f2.var? v.name = some w ∧ binopVar op f1 f2 coords v =
      { v with data := zipCells c v.data (rightData f1 f2 v w), attrs := attrs, masked := true } := by
  unfold binopVar
  cases hc : coords.contains v.name with
  | true => exact .inl (if_pos rfl)
  | false =>
    rw [if_neg Bool.false_ne_true]
    cases hw : f2.var? v.name with
    | none => exact .inl rfl
    | some w => exact .inr ⟨w, _, _, rfl, rfl⟩

/-- **C01 (file arithmetic).** `f1 <op> f2` is well-formed when both operands are: the shape test of `pncbo`
(repaired) guarantees that same-named variables have the same shape -/
theorem binop_wf (op : Op) (f1 f2 f' : File) (coords : List String) (h1 : WF f1) (h2 : WF f2)
    (hs : binopFile op f1 f2 coords = .ok f') : WF f' := by
  cases binop_ok hs
  refine wf_map _ rfl h1 (fun v _ hv => varWF_congr (f := f1) rfl ?_)
  obtain e | ⟨w, c, attrs, hw, e⟩ := binopVar_cases op f1 f2 coords v
  · rwa [e]
  · have hr : hasShape (f1.shapeOf v) (rightData f1 f2 v w) = true := by
      unfold rightData
      split
      · rename_i hsame
        rw [eq_of_beq hsame]
        exact (h2 w (File.var?_mem hw).1).2
      · exact build_hasShape _ _
    rw [e]
    exact ⟨hv.1, zipCells_hasShape _ _ _ _ hv.2 hr⟩

theorem reorder_ok {f r : File} {no : List String} (hs : reorderFile f no = .ok r) :
    ∃ φ : Var → Var, r = { f with vars := f.vars.map φ } ∧ ∀ v, φ v = v ∨ ∃ c, φ v =
      { v with dims := no.filter (fun k => v.dims.contains k),
               data := build ((no.filter (fun k => v.dims.contains k)).map f.dimLen) c } := by
  unfold reorderFile at hs
  dsimp only at hs
  refine ⟨_, (Except.ok.inj (Except.ok_of_ite hs).2).symm, fun v => ?_⟩
  cases (no.filter (fun k => v.dims.contains k)).isEmpty with
  | true => exact .inl rfl
  | false => exact .inr ⟨_, rfl⟩

/-- **C01 (reorderDimensions).** -/
theorem reorder_wf (f f' : File) (neworder : List String) (h : WF f)
    (hs : reorderFile f neworder = .ok f') : WF f' := by
  obtain ⟨φ, rfl, hφ⟩ := reorder_ok hs
  refine wf_map φ rfl h (fun v _ hv => ?_)
  obtain e | ⟨c, e⟩ := hφ v
  · rwa [e]
  · rw [e]
    exact varWF_build v _ f.dimLen _ (fun k hk => ⟨hv.1 k (List.contains_iff_mem.mp (List.mem_filter.mp hk).2), rfl⟩)

/-- **C01 (removeSingleton).** the file without the removed length-1 dimensions is well-formed -/
theorem removeSingleton_wf (f : File) (dk : Option String) (h : WF f) : WF (removeSingletonFile f dk) := by
  refine wf_map _ rfl h (fun v _ hv => ?_)
  refine varWF_build v _ f.dimLen _ (fun k hk => ?_)
  simp only [List.mem_map, List.mem_filter, List.mem_range] at hk
  obtain ⟨i, ⟨hi, hnot⟩, rfl⟩ := hk
  obtain ⟨d, hd⟩ := hv.dim (List.getD_mem "" hi)
  rw [File.dimLen_of_dim? hd]
  refine hasDim_of_dim? (File.dim?_filter_keep rfl hd ?_)
  rw [(File.dim?_mem hd).2]
  exact hnot

/-- no earlier pair renames to `n`: the targets are pairwise different -/
theorem renamedDims_find? (f : File) {ps : List (String × String)} (hnd : (ps.map (·.2)).Nodup) {k n : String}
    (hl : ps.lookup k = some n) {d : Dim} (hd : f.dim? k = some d) :
    (renamedDims f ps).find? (·.name == n) = some { d with name := n } := by
  obtain ⟨l₁, l₂, rfl, _⟩ := List.lookup_eq_some_iff.mp hl
  rw [List.map_append, List.nodup_append] at hnd
  unfold renamedDims
  rw [List.filterMap_append, List.filterMap_cons, hd, List.find?_append, List.find?_eq_none.mpr, Option.none_or,
    Option.map_some, List.find?_cons, (beq_iff_eq.mpr rfl : (n == n) = true)]
  intro x hx hxn
  obtain ⟨p, hp, hpx⟩ := List.mem_filterMap.mp hx
  obtain ⟨d', _, rfl⟩ := Option.map_eq_some_iff.mp hpx
  exact hnd.2.2 p.2 (List.mem_map_of_mem hp) n List.mem_cons_self (eq_of_beq hxn)

theorem renameDims_ok {f g : File} {pairs : List (String × String)} (hs : renameDimsFile f pairs = .ok g) :
    ∃ ps, ps = pairs.filter (fun p => p.1 != p.2) ∧ (ps.map (·.2)).Nodup ∧ (∀ p ∈ ps, f.dim? p.2 = none) ∧
      g = { f with dims := f.dims.filter (fun d => !(ps.map (·.1)).contains d.name) ++ renamedDims f ps,
                   vars := f.vars.map (fun v => { v with dims := v.dims.map (renameKey ps) }) } := by
  unfold renameDimsFile at hs
  dsimp only at hs
  obtain ⟨h1, hs⟩ := Except.ok_of_ite hs
  obtain ⟨h2, hs⟩ := Except.ok_of_ite hs
  obtain ⟨_, hs⟩ := Except.ok_of_ite hs
  refine ⟨_, rfl, by simpa using h1, fun p hp => ?_, (Except.ok.inj hs).symm⟩
  cases hq : f.dim? p.2 with
  | none => rfl
  | some d => exact absurd (List.any_eq_true.mpr ⟨p, hp, by rw [hq]; rfl⟩) h2

theorem renameDims_dim? {f g : File} {ps : List (String × String)} (hnd : (ps.map (·.2)).Nodup)
    (hfresh : ∀ p ∈ ps, f.dim? p.2 = none)
    (hg : g.dims = f.dims.filter (fun d => !(ps.map (·.1)).contains d.name) ++ renamedDims f ps)
    {k : String} {d : Dim} (hd : f.dim? k = some d) :
    g.dim? (renameKey ps k) = some { d with name := renameKey ps k } := by
  -- `m`: the file after the renamed dimensions are taken out, before they are put back at the end
  let m : File := { f with dims := f.dims.filter (fun d => !(ps.map (·.1)).contains d.name) }
  have hgm : g.dims = m.dims ++ renamedDims f ps := hg
  unfold renameKey
  cases hl : ps.lookup k with
  | none =>
    have hdn := (File.dim?_mem hd).2
    have hm : m.dim? k = some d := by
      refine File.dim?_filter_keep rfl hd ?_
      rw [Bool.not_eq_true', Bool.eq_false_iff]
      intro hc
      obtain ⟨p, hp, hpk⟩ := List.mem_map.mp (List.contains_iff_mem.mp hc)
      exact bne_iff_ne.mp (List.lookup_eq_none_iff.mp hl p hp) (hpk.trans hdn).symm
    rw [Option.getD_none, File.dim?_append_old hgm hm, ← hdn]
  | some n =>
    obtain ⟨l₁, l₂, hps, _⟩ := List.lookup_eq_some_iff.mp hl
    have hmn : m.dim? n = none := by
      rw [File.dim?_eq_none]
      have := File.dim?_eq_none.mp (hfresh (k, n) (hps ▸ List.mem_append_right _ List.mem_cons_self))
      exact fun h => this ((List.filter_sublist.map _).subset h)
    rw [Option.getD_some, File.dim?_append_new hgm hmn]
    exact renamedDims_find? f hnd hl hd

/-- **C01 (renameDimensions, several dimensions in one call).** chains and swaps through existing names are refused,
two dimensions cannot take one name; what is accepted relabels every variable consistently -/
theorem renameDims_wf (f f' : File) (pairs : List (String × String)) (h : WF f)
    (hs : renameDimsFile f pairs = .ok f') : WF f' := by
  obtain ⟨ps, _, hnd, hfresh, rfl⟩ := renameDims_ok hs
  refine wf_map _ rfl h (fun v _ hv => ⟨fun k' hk' => ?_, ?_⟩)
  · obtain ⟨k, hk, rfl⟩ := List.mem_map.mp hk'
    obtain ⟨d, hd⟩ := hv.dim hk
    rw [renameDims_dim? hnd hfresh rfl hd]
    rfl
  · unfold File.shapeOf
    rw [List.map_map]
    rw [List.map_congr_left (g := f.dimLen) (fun k hk => ?_)]
    · exact hv.2
    · obtain ⟨d, hd⟩ := hv.dim hk
      rw [Function.comp_apply, File.dimLen_of_dim? (renameDims_dim? hnd hfresh rfl hd), File.dimLen_of_dim? hd]

/-- an implication only: the two forms raise different errors when the old name is missing and the new one taken -/
theorem renameDims_of_renameDim {f g : File} {old new : String} (hs : renameDimFile f old new = .ok g) :
    renameDimsFile f [(old, new)] = .ok g := by
  unfold renameDimFile at hs
  unfold renameDimsFile
  cases hon : old == new with
  | true =>
    rw [hon, if_pos rfl] at hs
    cases hs
    have hdims : f.dims.filter (fun d => !([] : List String).contains d.name) ++ renamedDims f [] = f.dims := by
      rw [renamedDims, List.filterMap_nil, List.append_nil, List.filter_eq_self]
      exact fun _ _ => rfl
    have hvars : f.vars.map (fun v : Var => { v with dims := v.dims.map (renameKey []) }) = f.vars := by
      refine (List.map_congr_left fun v _ => ?_).trans (List.map_id _)
      rw [show renameKey [] = id from rfl, List.map_id]
      rfl
    -- the identity pair is dropped, and the guards of the general form pass on no pair
    simp only [List.filter_cons, bne, hon, Bool.not_true, Bool.false_eq_true, if_false, List.filter_nil, List.map_nil,
      List.nodup_nil, decide_true, List.any_nil, hdims, hvars]
  | false =>
    rw [hon, if_neg Bool.false_ne_true] at hs
    obtain ⟨h1, hs⟩ := Except.ok_of_ite hs
    obtain ⟨h2, hs⟩ := Except.ok_of_ite hs
    rw [if_neg Bool.false_ne_true] at hs
    have hdims : f.dims.filter (fun d => !([old].contains d.name)) ++ renamedDims f [(old, new)] =
        f.dims.filter (fun d => d.name != old) ++ ((f.dim? old).map (fun d => { d with name := new })).toList := by
      refine congrArg₂ (· ++ ·) (List.filter_congr (fun d _ => ?_)) ?_
      · rw [List.contains_cons, List.contains_nil, Bool.or_false]
        rfl
      · rw [renamedDims, List.filterMap_cons, List.filterMap_nil]
        cases f.dim? old <;> rfl
    have hvars : f.vars.map (fun v : Var => { v with dims := v.dims.map (renameKey [(old, new)]) }) =
        f.vars.map (fun v : Var => { v with dims := v.dims.map (fun k => if k == old then new else k) }) := by
      refine List.map_congr_left (fun v _ => ?_)
      rw [List.map_congr_left (fun k _ => ?_)]
      unfold renameKey
      rw [List.lookup_cons, List.lookup_nil]
      cases k == old <;> rfl
    -- the pair stays; on the one pair the guards of the general form are `h1` and `h2`
    simp only [List.filter_cons, bne, hon, Bool.not_false, if_true, List.filter_nil, List.map_cons, List.map_nil,
      List.nodup_cons, List.not_mem_nil, not_false_eq_true, List.nodup_nil, and_self, decide_true, Bool.not_true,
      Bool.false_eq_true, if_false, List.any_cons, List.any_nil, Bool.or_false, h1, h2, hdims, hvars]
    exact hs

/-- **C01 (renameDimension).** the single-dimension form is the one-pair case of `renameDimensions` -/
theorem renameDim_wf (f f' : File) (old new : String) (h : WF f)
    (hs : renameDimFile f old new = .ok f') : WF f' :=
  renameDims_wf f f' [(old, new)] h (renameDims_of_renameDim hs)

def axisLen (fns : List (String × Fn)) (d : String) (n : Nat) : Nat :=
  match fnOf fns d with | some fn => fnLen fn n | none => n

/-- the shape `applyAlongDimensions` produces for a variable with dimensions `dims` and shape `sh` -/
def targetShape (fns : List (String × Fn)) : List String → List Nat → List Nat
  | d :: ds, n :: ns => (match fnOf fns d with | some fn => fnLen fn n | none => n) :: targetShape fns ds ns
  | _, _ => []

theorem targetShape_eq_zipWith (fns : List (String × Fn)) : ∀ (dims : List String) (sh : List Nat),
    targetShape fns dims sh = List.zipWith (axisLen fns) dims sh
  | [], _ => by
    rw [List.zipWith_nil_left]
    rfl
  | _ :: _, [] => by
    rw [List.zipWith_nil_right]
    rfl
  | d :: ds, n :: ns => by
    rw [List.zipWith_cons_cons, ← targetShape_eq_zipWith fns ds ns]
    rfl

theorem targetShape_length (fns : List (String × Fn)) (dims : List String) (sh : List Nat)
    (h : dims.length = sh.length) : (targetShape fns dims sh).length = sh.length := by
  rw [targetShape_eq_zipWith, List.length_zipWith, h, Nat.min_self]

theorem targetShape_getElem? (fns : List (String × Fn)) (dims : List String) (sh : List Nat) (i : Nat)
    (hd : i < dims.length) (hi : i < sh.length) :
    (targetShape fns dims sh)[i]? = some (axisLen fns (dims.getD i "") (sh.getD i 0)) := by
  rw [targetShape_eq_zipWith, List.getElem?_zipWith, List.getD_eq_getElem?_getD, List.getD_eq_getElem?_getD,
    List.getElem?_eq_getElem hd, List.getElem?_eq_getElem hi]
  rfl

theorem applyAxis_step (fns : List (String × Fn)) (dims : List String) (a : Arr Cell) (sh : List Nat) (n : Nat)
    (hn : n < sh.length) (hs : hasShape sh a = true) (hp : AllPos sh)
    (hpos : ∀ fn, fnOf fns (dims.getD n "") = some fn → 0 < fnLen fn (sh.getD n 0)) :
    ∃ a', applyAxis fns dims (a, sh) n = (a', sh.set n (axisLen fns (dims.getD n "") (sh.getD n 0))) ∧
      hasShape (sh.set n (axisLen fns (dims.getD n "") (sh.getD n 0))) a' = true ∧
      AllPos (sh.set n (axisLen fns (dims.getD n "") (sh.getD n 0))) := by
  unfold applyAxis axisLen
  cases hf : fnOf fns (dims.getD n "") with
  | none =>
    dsimp only
    rw [List.set_getD_self]
    exact ⟨a, rfl, hs, hp⟩
  | some fn =>
    refine ⟨_, ?_, apply_shape fn sh n a hs hp hn, allPos_set sh n _ hp (hpos fn hf)⟩
    dsimp only
    rw [fn_uniform fn, List.length_map, List.length_range]

/-- the axes loop of `applyVar`, last axis first: data and shape stay consistent and every processed axis takes
the function's output length -/
theorem applyAxes_spec (fns : List (String × Fn)) (dims : List String) (sh0 : List Nat)
    (hlen : dims.length = sh0.length)
    (hpos : ∀ i, i < sh0.length → ∀ fn, fnOf fns (dims.getD i "") = some fn → 0 < fnLen fn (sh0.getD i 0)) :
    ∀ (n : Nat) (a : Arr Cell) (sh : List Nat), n ≤ sh0.length → sh.length = sh0.length →
      hasShape sh a = true → AllPos sh → sh.take n = sh0.take n →
      hasShape ((List.range n).reverse.foldl (applyAxis fns dims) (a, sh)).2
          ((List.range n).reverse.foldl (applyAxis fns dims) (a, sh)).1 = true ∧
        AllPos ((List.range n).reverse.foldl (applyAxis fns dims) (a, sh)).2 ∧
        ((List.range n).reverse.foldl (applyAxis fns dims) (a, sh)).2 =
          (targetShape fns dims sh0).take n ++ sh.drop n := by
  intro n
  induction n with
  | zero =>
    intro a sh _ _ hs hp _
    exact ⟨hs, hp, rfl⟩
  | succ n ih =>
    intro a sh hn hl hs hp ht
    have hn0 : n < sh0.length := Nat.lt_of_succ_le hn
    have hnsh : n < sh.length := Nat.lt_of_lt_of_eq hn0 hl.symm
    -- axis `n` is processed first; it still has its original length
    have hshn : sh.getD n 0 = sh0.getD n 0 := by
      rw [← List.getD_take (Nat.lt_succ_self n), ht, List.getD_take (Nat.lt_succ_self n)]
    obtain ⟨a', hstep, hs', hp'⟩ := applyAxis_step fns dims a sh n hnsh hs hp
      (fun fn hf => hshn ▸ hpos n hn0 fn hf)
    rw [List.range_succ, List.reverse_append, List.reverse_singleton, List.singleton_append, List.foldl_cons, hstep]
    have htn : (sh.set n (axisLen fns (dims.getD n "") (sh.getD n 0))).take n = sh0.take n := by
      rw [List.take_set_of_le (Nat.le_refl n)]
      have := congrArg (List.take n) ht
      rwa [List.take_take, List.take_take, Nat.min_eq_left (Nat.le_succ n)] at this
    obtain ⟨h1, h2, h3⟩ := ih a' _ (Nat.le_of_lt hn0) ((List.length_set ..).trans hl) hs' hp' htn
    refine ⟨h1, h2, ?_⟩
    have hT := targetShape_getElem? fns dims sh0 n (Nat.lt_of_lt_of_eq hn0 hlen.symm) hn0
    rw [h3, List.take_add_one, hT, ← hshn, Option.toList_some, List.append_assoc, List.singleton_append,
      List.drop_eq_getElem_cons ((List.length_set ..).symm ▸ hnsh), List.getElem_set_self,
      List.drop_set_of_lt (Nat.lt_succ_self n)]

theorem apply_ok {f g : File} {fns : List (String × Fn)} (hs : applyFile f fns = .ok g) :
    g.dims = f.dims.map (fun d => { d with len := axisLen fns d.name d.len }) ∧ g.vars = f.vars.map (applyVar f fns) := by
  unfold applyFile at hs
  obtain ⟨_, hs⟩ := Except.ok_of_ite hs
  obtain ⟨_, hs⟩ := Except.ok_of_ite hs
  obtain ⟨_, hs⟩ := Except.ok_of_ite hs
  cases hs
  refine ⟨List.map_congr_left (fun d _ => ?_), rfl⟩
  refine congrArg (fun n => ({ d with len := n } : Dim)) ?_
  dsimp only
  unfold axisLen
  cases fnOf fns d.name with
  | none => rfl
  | some fn => exact (fn_uniform fn _).trans (by rw [List.length_map, List.length_range])

/-- **C01 (applyAlongDimensions).** For a file without empty dimensions and functions that do not empty an axis
(`diff` of a length-1 axis does), the result of `applyAlongDimensions` is well-formed: every variable keeps its
dimension names and its data have exactly the new dimension lengths — any rank, any number of functions. -/
theorem apply_wf (f g : File) (fns : List (String × Fn)) (h : WF f)
    (hne : ∀ d ∈ f.dims, 0 < d.len)
    (hfn : ∀ name fn, fnOf fns name = some fn → 0 < fnLen fn (f.dimLen name))
    (hs : applyFile f fns = .ok g) : WF g := by
  obtain ⟨hdims, hvars⟩ := apply_ok hs
  refine wf_map _ hvars h (fun v _ hv => ?_)
  refine varWF_of (v := applyVar f fns v) (fun k => axisLen fns k (f.dimLen k)) (fun k hk => ?_) ?_
  · obtain ⟨d, hd⟩ := hv.dim hk
    have hg := File.dim?_map_len hdims k
    rw [hd] at hg
    obtain ⟨_, rfl⟩ := File.dim?_mem hd
    rw [File.dimLen_of_dim? hd]
    exact hasDim_of_dim? hg
  · -- the axes loop gives the target shape, which is the list of new dimension lengths
    have hlen : v.dims.length = (f.shapeOf v).length := (List.length_map _).symm
    have hpos0 : AllPos (f.shapeOf v) := by
      intro n hn
      obtain ⟨k, hk, rfl⟩ := List.mem_map.mp hn
      obtain ⟨d, hd⟩ := hv.dim hk
      rw [File.dimLen_of_dim? hd]
      exact hne d (File.dim?_mem hd).1
    have hposf : ∀ i, i < (f.shapeOf v).length → ∀ fn, fnOf fns (v.dims.getD i "") = some fn →
        0 < fnLen fn ((f.shapeOf v).getD i 0) := by
      intro i hi fn hf
      have hi' : i < v.dims.length := Nat.lt_of_lt_of_eq hi hlen.symm
      have : (f.shapeOf v).getD i 0 = f.dimLen (v.dims.getD i "") := by
        rw [← List.getElem_eq_getD (h := hi), ← List.getElem_eq_getD (h := hi')]
        exact List.getElem_map _
      rw [this]
      exact hfn _ fn hf
    obtain ⟨r1, _, r3⟩ := applyAxes_spec fns v.dims (f.shapeOf v) hlen hposf v.dims.length v.data (f.shapeOf v)
      (Nat.le_of_eq hlen) rfl hv.2 hpos0 rfl
    have htarget : targetShape fns v.dims (f.shapeOf v) = v.dims.map (fun k => axisLen fns k (f.dimLen k)) := by
      rw [targetShape_eq_zipWith, File.shapeOf, List.zipWith_map_right, List.zipWith_self]
    rw [htarget, List.take_of_length_le (Nat.le_of_eq (List.length_map _)),
      List.drop_of_length_le (Nat.le_of_eq hlen.symm), List.append_nil] at r3
    rw [r3] at r1
    unfold applyVar
    dsimp only
    split
    · exact mapCells_hasShape _ _ _ r1
    · exact r1

theorem fnOf_single {k name : String} {fn fn' : Fn} (h : fnOf [(k, fn)] name = some fn') : fn' = fn := by
  obtain ⟨p, hp, rfl⟩ := Option.map_eq_some_iff.mp h
  rw [List.mem_singleton.mp (List.mem_of_find?_eq_some hp)]

/-- non-vacuity of `mask_wf` and `insertDim_wf`: a well-formed two-variable file without a dimension `lev` -/
example : let f : File := ⟨[⟨"t", 2, true⟩, ⟨"x", 2, false⟩],
      [⟨"A", ["t", "x"], .node [.node [.leaf (some 1), .leaf none], .node [.leaf (some 3), .leaf (some 4)]], [], true, false⟩,
       ⟨"x", ["x"], .node [.leaf (some 10), .leaf (some 20)], [], false, false⟩], []⟩
    WF f ∧ f.dim? "lev" = none := by
  unfold WF VarWF
  decide +kernel

/-- non-vacuity of `renameDims_wf`: a two-dimension rename is accepted; a swap and a merge are refused -/
example : let f : File := ⟨[⟨"t", 2, true⟩, ⟨"x", 2, false⟩],
      [⟨"A", ["t", "x"], .node [.node [.leaf (some 1), .leaf none], .node [.leaf (some 3), .leaf (some 4)]], [], true, false⟩], []⟩
    (∃ g, renameDimsFile f [("t", "time"), ("x", "lon")] = .ok g ∧ g.vars.map (·.dims) = [["time", "lon"]]) ∧
    renameDimsFile f [("t", "x"), ("x", "t")] = .error "ValueError" ∧
    renameDimsFile f [("t", "z"), ("x", "z")] = .error "ValueError" := by
  exact ⟨⟨_, rfl, rfl⟩, rfl, rfl⟩

/-- non-vacuity of `apply_wf`: the mean over `t` of a (t, x) variable next to a 1-D variable -/
example : let f : File := ⟨[⟨"t", 2, true⟩, ⟨"x", 2, false⟩],
      [⟨"A", ["t", "x"], .node [.node [.leaf (some 1), .leaf none], .node [.leaf (some 3), .leaf (some 4)]], [], true, false⟩,
       ⟨"x", ["x"], .node [.leaf (some 10), .leaf (some 20)], [], false, false⟩], []⟩
    (∀ d ∈ f.dims, 0 < d.len) ∧ (∀ name fn, fnOf [("t", Fn.mean)] name = some fn → 0 < fnLen fn (f.dimLen name)) ∧
    (applyFile f [("t", Fn.mean)]).toOption.isSome = true := by
  refine ⟨by decide +kernel, ?_, by decide +kernel⟩
  intro name fn h
  cases fnOf_single h
  exact Nat.zero_lt_one

end Props.C01
