import PncModel.Cal
import Mathlib.Tactic.Ring

/-!
Calendar lemmas.  The closed form `dby` obeys the recursion over year lengths, so a day lies in one year only; a year
written with the digits of the 400/100/4/1-year cycles has its days counted by the cycle lengths, and `ord2yd` computes
those digits; the other round trip follows from uniqueness.  Flags are two small positional codes.
-/
namespace Cal

theorem ediv_emod_digit {k q r : Int} (h0 : 0 ≤ r) (h1 : r < k) : (q * k + r) / k = q ∧ (q * k + r) % k = r := by
  refine (Int.ediv_emod_unique (Int.lt_of_le_of_lt h0 h1)).mpr ⟨?_, h0, h1⟩
  rw [Int.mul_comm, Int.add_comm]

theorem yearLen_eq_or (y : Int) : yearLen y = 365 ∨ yearLen y = 366 := by
  unfold yearLen
  split
  · exact .inr rfl
  · exact .inl rfl

theorem le_yearLen (y : Int) : 365 ≤ yearLen y := by
  rcases yearLen_eq_or y with h | h
  · exact h ▸ Int.le_refl _
  · exact h ▸ by decide

theorem ediv_step (y k : Int) (hk : 0 < k) : y / k = (y - 1) / k + if y % k = 0 then 1 else 0 := by
  have h := Int.ediv_mul_add_emod y k
  have h0 := Int.emod_nonneg y (Int.ne_of_gt hk)
  have h1 := Int.emod_lt_of_pos y hk
  split
  · have e : y - 1 = (y / k - 1) * k + (k - 1) := by
      rw [Int.sub_mul, Int.one_mul]
      omega
    rw [e, (ediv_emod_digit (by omega) (by omega)).1]
    omega
  · have e : y - 1 = y / k * k + (y % k - 1) := by omega
    rw [e, (ediv_emod_digit (by omega) (by omega)).1]
    omega

theorem emod_eq_zero_trans {y j k : Int} (hjk : j ∣ k) (h : y % k = 0) : y % j = 0 :=
  Int.emod_eq_zero_of_dvd (Int.dvd_trans hjk (Int.dvd_of_emod_eq_zero h))

/-- the leap rule counts the steps of the three quotients of `dby` -/
theorem yearLen_eq (y : Int) : yearLen y =
    365 + (if y % 4 = 0 then 1 else 0) - (if y % 100 = 0 then 1 else 0) + if y % 400 = 0 then 1 else 0 := by
  have h1 : y % 400 = 0 → y % 100 = 0 := emod_eq_zero_trans (by decide)
  have h2 : y % 100 = 0 → y % 4 = 0 := emod_eq_zero_trans (by decide)
  unfold yearLen isLeap
  by_cases c400 : y % 400 = 0
  · simp [c400, h1 c400, h2 (h1 c400)]
  · by_cases c100 : y % 100 = 0
    · simp [c400, c100, h2 c100]
    · by_cases c4 : y % 4 = 0
      · simp [c400, c100, c4]
      · simp [c400, c100, c4]

theorem dby_succ (y : Int) : dby (y + 1) = dby y + yearLen y := by
  simp only [dby, Int.add_sub_cancel]
  rw [ediv_step y 4 (by decide), ediv_step y 100 (by decide), ediv_step y 400 (by decide), yearLen_eq]
  ring

theorem dby_one : dby 1 = 0 := by decide

theorem dby_mono {y z : Int} (h : y ≤ z) : dby y ≤ dby z := by
  induction z, h using Int.leInduction with
  | base => exact Int.le_refl _
  | succ z _ ih =>
    have := dby_succ z
    have := yearLen_eq_or z
    omega

theorem yd2ord_not_lt {y z d e : Int} (h : yd2ord y d = yd2ord z e) (hd : d ≤ yearLen y) (he : 1 ≤ e) : ¬ y < z := by
  intro hlt
  have := dby_mono (Int.add_one_le_of_lt hlt)
  have := dby_succ y
  unfold yd2ord at h
  omega

theorem yd2ord_inj {y z d e : Int} (h : yd2ord y d = yd2ord z e) (hd : 1 ≤ d) (hd' : d ≤ yearLen y)
    (he : 1 ≤ e) (he' : e ≤ yearLen z) : y = z ∧ d = e := by
  obtain rfl : y = z :=
    Int.le_antisymm (Int.not_lt.mp (yd2ord_not_lt h.symm he' hd)) (Int.not_lt.mp (yd2ord_not_lt h hd' he))
  exact ⟨rfl, Int.add_left_cancel h⟩

/-! ### the digits of a year -/

/-- day `r + 1` of the year after `a` cycles of 400 years, `b` centuries, `c` cycles of four years and `d` years: the
quotients by 4, 4 * 25 and 4 * 25 * 4 strip the digits of the year one after the other -/
theorem yd2ord_digits (a r : Int) {b c d : Int} (hb : 0 ≤ b ∧ b < 4) (hc : 0 ≤ c ∧ c < 25) (hd : 0 ≤ d ∧ d < 4) :
    yd2ord (((a * 4 + b) * 25 + c) * 4 + d + 1) (r + 1) =
      146097 * a + (36524 * b + (1461 * c + (365 * d + r))) + 1 := by
  have e4 := (ediv_emod_digit (q := (a * 4 + b) * 25 + c) hd.1 hd.2).1
  have e100 := (ediv_emod_digit (q := a * 4 + b) hc.1 hc.2).1
  have e400 := (ediv_emod_digit (q := a) hb.1 hb.2).1
  rw [yd2ord, dby, Int.add_sub_cancel, show (400 : Int) = 4 * 25 * 4 from rfl, ← Int.ediv_ediv_of_nonneg (by decide),
    show (100 : Int) = 4 * 25 from rfl, ← Int.ediv_ediv_of_nonneg (by decide), e4, e100, e400]
  ring

theorem yearLen_digits_leap (a b c : Int) (hc : 0 ≤ c ∧ c < 25) (h : c ≠ 24 ∨ b = 3) :
    yearLen (((a * 4 + b) * 25 + c) * 4 + 3 + 1) = 366 := by
  have : isLeap (((a * 4 + b) * 25 + c) * 4 + 3 + 1) = true := by
    simp only [isLeap, decide_eq_true_eq]
    omega
  simp only [yearLen, this, if_true]

/-- in the shape `ord2yd` computes the digits; `hr`: day 365 exists in the last year of a four-year cycle, the end of
a century that does not end a 400-year cycle excepted -/
theorem ord_digits {n y r a b c d : Int} (hy : y = ((a * 4 + b) * 25 + c) * 4 + d + 1)
    (hn : 146097 * a + (36524 * b + (1461 * c + (365 * d + r))) = n - 1)
    (ha : 0 ≤ a) (hb : 0 ≤ b ∧ b < 4) (hc : 0 ≤ c ∧ c < 25) (hd : 0 ≤ d ∧ d < 4) (hr0 : 0 ≤ r)
    (hr : r < 365 ∨ r = 365 ∧ d = 3 ∧ (c ≠ 24 ∨ b = 3)) :
    yd2ord y (r + 1) = n ∧ 1 ≤ y ∧ 1 ≤ r + 1 ∧ r + 1 ≤ yearLen y := by
  subst hy
  refine ⟨?_, ?_, Int.le_add_of_nonneg_left hr0, ?_⟩
  · rw [yd2ord_digits a r hb hc hd, hn, Int.sub_add_cancel]
  · omega
  · rcases hr with hr | ⟨rfl, rfl, hr⟩
    · exact Int.le_trans (Int.add_one_le_of_lt hr) (le_yearLen _)
    · rw [yearLen_digits_leap a b c hc hr]
      decide

/-- quotient and remainder as variables with their linear specification: `omega` is slow on `/` and `%` by the
cycle lengths -/
theorem exists_ediv_emod_le (k m : Int) {n N : Int} (hk : 0 < k) (h0 : 0 ≤ n) (hN : n < N) (hm : N ≤ (m + 1) * k) :
    ∃ q r, n / k = q ∧ n % k = r ∧ n = k * q + r ∧ 0 ≤ r ∧ r < k ∧ 0 ≤ q ∧ q ≤ m :=
  ⟨_, _, rfl, rfl, (Int.mul_ediv_add_emod n k).symm, Int.emod_nonneg n (Int.ne_of_gt hk), Int.emod_lt_of_pos n hk,
    Int.ediv_nonneg h0 (Int.le_of_lt hk),
    Int.le_of_lt_add_one (Int.ediv_lt_of_lt_mul hk (Int.lt_of_lt_of_le hN hm))⟩

theorem yd2ord_ord2yd (n : Int) (hn : 1 ≤ n) :
    yd2ord (ord2yd n).1 (ord2yd n).2 = n ∧ 1 ≤ (ord2yd n).1 ∧ 1 ≤ (ord2yd n).2 ∧
      (ord2yd n).2 ≤ yearLen (ord2yd n).1 := by
  have ha : 0 ≤ (n - 1) / 146097 := Int.ediv_nonneg (Int.sub_nonneg_of_le hn) (by decide)
  have h400 := Int.mul_ediv_add_emod (n - 1) 146097
  have r400_0 : 0 ≤ (n - 1) % 146097 := Int.emod_nonneg _ (by decide)
  have r400_lt : (n - 1) % 146097 < 146097 := Int.emod_lt_of_pos _ (by decide)
  -- the pair occurs six times in the goal: name it and unfold it once
  generalize hp : ord2yd n = p
  simp only [ord2yd] at hp
  generalize (n - 1) / 146097 = a at *
  generalize (n - 1) % 146097 = r400 at *
  obtain ⟨b, r100, eb, er100, rfl, r100_0, r100_lt, b0, b4⟩ :=
    exists_ediv_emod_le 36524 4 (by decide) r400_0 r400_lt (by decide)
  simp only [eb, er100] at hp
  clear eb er100
  by_cases hb4 : b = 4
  · -- the last day of a 400-year cycle: the later digits are those of 0
    obtain rfl : r100 = 0 := by omega
    subst hb4 hp
    simp only [Int.zero_ediv, Int.zero_emod, or_true, if_true]
    -- `h400` is the digit sum: 36524 * 4 + 0 = 36524 * 3 + (1461 * 24 + (365 * 3 + 365))
    exact ord_digits (b := 3) (c := 24) (d := 3) (r := 365) (by ring) h400 ha (by decide) (by decide)
      (by decide) (by decide) (by decide)
  · obtain ⟨c, r4, ec, er4, rfl, r4_0, r4_lt, c0, c24⟩ :=
      exists_ediv_emod_le 1461 24 (by decide) r100_0 r100_lt (by decide)
    obtain ⟨d, r1, ed, er1, rfl, r1_0, r1_lt, d0, d4⟩ :=
      exists_ediv_emod_le 365 4 (by decide) r4_0 r4_lt (by decide)
    simp only [ec, er4, ed, er1] at hp
    clear ec er4 ed er1
    have hb := Int.lt_iff_le_and_ne.mpr ⟨b4, hb4⟩
    have hc := Int.lt_add_one_of_le c24
    by_cases hd4 : d = 4
    · -- the last day of a four-year cycle
      obtain rfl : r1 = 0 := by omega
      subst hd4 hp
      simp only [true_or, if_true]
      -- `h400` is the digit sum: 365 * 4 + 0 = 365 * 3 + 365
      exact ord_digits (d := 3) (r := 365) (by ring) h400 ha ⟨b0, hb⟩ ⟨c0, hc⟩ (by decide) (by decide)
        (by omega)
    · simp only [hd4, hb4, or_false, if_false] at hp
      subst hp
      exact ord_digits (by ring) h400 ha ⟨b0, hb⟩ ⟨c0, hc⟩ ⟨d0, Int.lt_iff_le_and_ne.mpr ⟨d4, hd4⟩⟩ r1_0
        (Or.inl r1_lt)

theorem ord2yd_yd2ord (y doy : Int) (hy : 1 ≤ y) (h1 : 1 ≤ doy) (h2 : doy ≤ yearLen y) :
    ord2yd (yd2ord y doy) = (y, doy) := by
  have h0 : 0 ≤ dby y := dby_one ▸ dby_mono hy
  obtain ⟨e, _, h1', h2'⟩ := yd2ord_ord2yd (yd2ord y doy) (by unfold yd2ord; omega)
  obtain ⟨ey, ed⟩ := yd2ord_inj e h1' h2' h1 h2
  exact Prod.ext ey ed

/-! ### flags: a date field and a time field -/

theorem digits3 {B B' BB h m s : Int} (hBB : BB = B' * B) (hm : 0 ≤ m ∧ m < B') (hs : 0 ≤ s ∧ s < B) :
    (h * BB + m * B + s) / BB = h ∧ (h * BB + m * B + s) % BB / B = m ∧ (h * BB + m * B + s) % B = s := by
  obtain ⟨hm0, hm⟩ := hm
  obtain ⟨hs0, hs⟩ := hs
  have hB : 0 ≤ B := Int.le_trans hs0 (Int.le_of_lt hs)
  have hr0 : 0 ≤ m * B + s := Int.add_nonneg (Int.mul_nonneg hm0 hB) hs0
  have hr : m * B + s < BB := by
    have := Int.mul_le_mul_of_nonneg_right (Int.add_one_le_of_lt hm) hB
    rw [Int.add_mul, Int.one_mul] at this
    omega
  obtain ⟨e1, e2⟩ := ediv_emod_digit (k := BB) (q := h) hr0 hr
  obtain ⟨e3, e4⟩ := ediv_emod_digit (k := B) (q := m) hs0 hs
  rw [← Int.emod_emod_of_dvd _ ⟨B', hBB.trans (Int.mul_comm _ _)⟩, Int.add_assoc, e1, e2, e3, e4]
  exact ⟨rfl, rfl, rfl⟩

theorem digits3_value (T : Int) {B BB : Int} (h : B ∣ BB) : T / BB * BB + T % BB / B * B + T % B = T := by
  rw [← Int.emod_emod_of_dvd T h, Int.add_assoc, Int.ediv_mul_add_emod, Int.ediv_mul_add_emod]

theorem hmsSeconds_digits (h m s : Int) (hm : 0 ≤ m ∧ m < 100) (hs : 0 ≤ s ∧ s < 100) :
    hmsSeconds (h * 10000 + m * 100 + s) = h * 3600 + m * 60 + s := by
  obtain ⟨e1, e2, e3⟩ := digits3 (h := h) (show (10000 : Int) = 100 * 100 from rfl) hm hs
  rw [hmsSeconds, e1, e2, e3]

theorem hmsSeconds_enc (s : Int) : hmsSeconds (s / 3600 * 10000 + s % 3600 / 60 * 100 + s % 60) = s := by
  rw [hmsSeconds_digits _ _ _ (by omega) (by omega)]
  exact digits3_value s (by decide)

theorem hmsSeconds_digits60 (T : Int) (hm : T % 10000 / 100 < 60) (hs : T % 100 < 60) :
    hmsSeconds T / 3600 = T / 10000 ∧ hmsSeconds T % 3600 / 60 = T % 10000 / 100 ∧ hmsSeconds T % 60 = T % 100 :=
  digits3 (show (3600 : Int) = 60 * 60 from rfl) ⟨Int.ediv_nonneg (Int.emod_nonneg _ (by decide)) (by decide), hm⟩
    ⟨Int.emod_nonneg _ (by decide), hs⟩

theorem enc_hmsSeconds (T : Int) (hm : T % 10000 / 100 < 60) (hs : T % 100 < 60) :
    hmsSeconds T / 3600 * 10000 + hmsSeconds T % 3600 / 60 * 100 + hmsSeconds T % 60 = T := by
  obtain ⟨e1, e2, e3⟩ := hmsSeconds_digits60 T hm hs
  rw [e1, e2, e3]
  exact digits3_value T (by decide)

theorem decJ_eq (d t : Int) : decJ d t = instant (yd2ord (d / 1000) (d % 1000)) (hmsSeconds t) := by
  simp only [decJ, instant, yd2ord, hmsSeconds]
  ring

/-- `0 ≤ t`: every instant from year 1 on -/
theorem decJ_encJ (t : Int) (ht : 0 ≤ t) : decJ (encJ t).1 (encJ t).2 = t := by
  obtain ⟨h1, -, hd1, hd2⟩ := yd2ord_ord2yd (t / 86400 + 1) (Int.le_add_of_nonneg_left (Int.ediv_nonneg ht (by decide)))
  have hlen := yearLen_eq_or (ord2yd (t / 86400 + 1)).1
  obtain ⟨e1, e2⟩ := ediv_emod_digit (k := 1000) (q := (ord2yd (t / 86400 + 1)).1) (r := (ord2yd (t / 86400 + 1)).2)
    (by omega) (by omega)
  simp only [encJ, decJ_eq, hmsSeconds_enc]
  rw [e1, e2, h1, instant, Int.add_sub_cancel]
  exact Int.ediv_mul_add_emod t 86400

theorem encJ_date_pos (t : Int) (ht : 0 ≤ t) : 0 < (encJ t).1 := by
  obtain ⟨_, hy, hd1, _⟩ := yd2ord_ord2yd (t / 86400 + 1) (Int.le_add_of_nonneg_left (Int.ediv_nonneg ht (by decide)))
  simp only [encJ]
  generalize (ord2yd (t / 86400 + 1)).1 = y at *
  generalize (ord2yd (t / 86400 + 1)).2 = doy at *
  omega

theorem encJ_decJ (d t : Int) (h : validFlag d t = true) : encJ (decJ d t) = (d, t) := by
  simp only [validFlag, decide_eq_true_eq] at h
  obtain ⟨hy, hj1, hj2, ht0, hh, hm, hs⟩ := h
  -- the seconds lie in [0, 86400) because their hour digit, that of `t`, lies in [0, 24)
  have eh := (hmsSeconds_digits60 t hm hs).1
  have hs0 : 0 ≤ hmsSeconds t := (Int.ediv_nonneg_iff_of_pos (by decide)).mp (eh ▸ Int.ediv_nonneg ht0 (by decide))
  have hs1 : hmsSeconds t < 24 * 3600 := (Int.ediv_lt_iff_lt_mul (by decide)).mp (eh ▸ hh)
  obtain ⟨e1, e2⟩ := ediv_emod_digit (k := 86400) (q := yd2ord (d / 1000) (d % 1000) - 1) hs0 hs1
  simp only [encJ, decJ_eq, instant, e1, e2, Int.sub_add_cancel, ord2yd_yd2ord _ _ hy hj1 hj2, enc_hmsSeconds t hm hs,
    Int.ediv_mul_add_emod]

end Cal
