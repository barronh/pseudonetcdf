import Mathlib.Algebra.GroupWithZero.Nat  -- `uamiv_layout_matches_source` takes the zero of its `List.sum` from here
import PncModel.Generated.UamivLayouts
import PncProofs.UamivLemmas
import PncProofs.LanduseLemmas
import PncProofs.CloudRainLemmas
import PncProofs.BoundaryLemmas

/-!
# C09 — binary files conform to the published layout: property theorems (CAMx formats)

`Uamiv.encode` is the reference encoder (and, through the correspondence, the bytes of the library
writer); `refDecode` the independent decoder that uses only record markers and the published
layout. For the other formats: the records tile the encoding, how many there are, and the format's reader on it.
-/
namespace Props.C09
open Words Camx

/-! ### gridded (uamiv) files -/

/-- **C09 (tiling).** The file is a gap-free sequence of Fortran records whose leading and trailing
markers agree and tile it exactly: parsing by markers alone returns exactly the records written,
and the size is the payload plus two markers per record. -/
theorem tiles (f : Uamiv) :
    parseRecords f.encode.length f.encode = some f.records ∧
    f.encode.length = (f.records.map List.length).sum + 2 * f.records.length :=
  ⟨parse_encode f.records _ (Nat.le_refl _), encodeRecs_length f.records⟩

/-- **C09 (header counts).** The counts stored in the header records are the counts of the content:
species count in record 1, nx/ny/nz in record 2, nx/ny again in record 3. -/
theorem header_counts (f : Uamiv) (h : WF f) :
    (f.records.getD 0 []).getD 71 0 = f.species.length ∧
    f.records.getD 1 [] = f.grid ∧
    f.records.getD 2 [] = [1, 1, f.nx, f.ny] ∧
    (f.records.getD 3 []).length = 10 * f.species.length := by
  refine ⟨hdr_getD f h 1, rfl, rfl, ?_⟩
  · simp only [Uamiv.records, List.cons_append, List.getD_cons_succ, List.getD_cons_zero]
    exact flatten_chars_length f.species h.species

/-- **C09 (independent decoder).** For every well-formed content (any species list, grid size,
layer count, number of steps, any payload words) the independent decoder recovers exactly the
names, times and values that were written. -/
theorem refDecode_encode (f : Uamiv) (h : WF f) : refDecode f.encode = some f := by
  unfold refDecode
  rw [(tiles f).1]
  exact decodeRecords_records f h

/-- a 2-species, 1×2-cell, 2-layer, 1-step file -/
def exFile : Uamiv where
  name := List.replicate 10 65
  note := List.replicate 60 32
  itzon := 0
  ibdate := 19001
  btime := 0
  iedate := 19001
  etime := f32OfNat 1
  grid := [0, 0, 0, 0, 0, 0, 0, 2, 1, 2, 0, 0, 0, 0, 0]
  species := [List.replicate 10 66, List.replicate 10 67]
  steps := [⟨19001, 0, 19001, f32OfNat 1, [[[1, 2], [3, 4]], [[5, 6], [7, 8]]]⟩]

/-- non-vacuity: the example is well-formed content, round-trips, and has the expected size -/
example : refDecode exFile.encode = some exFile ∧ exFile.encode.length = 78 + 17 + 6 + 22 + 6 + 4 * 15 := by
  refine ⟨refDecode_encode exFile ⟨?_, ?_, ?_, ?_, ?_⟩, ?_⟩
  · decide +kernel
  · decide +kernel
  · decide +kernel
  · decide +kernel
  · decide +kernel
  · rw [(tiles exFile).2]
    decide +kernel

/-- **tie to the source** (regenerated from camxfiles/uamiv/Write.py and Memmap.py on every run): the writer and the
memory-mapped reader of gridded CAMx files declare the same four header records field by field; their payloads (without
the two record markers) are the 76, 15, 4 and 4 words of the model's layout; and the species count and the grid sizes
sit at the word offsets where the model reads them (71 in the first record; 7, 8, 9 in the second, i.e. words 72 and
86..88 of the file) -/
theorem uamiv_layout_matches_source :
    Generated.uamivWriterEmiss = Generated.uamivReaderEmiss ∧ Generated.uamivWriterGrid = Generated.uamivReaderGrid ∧
    Generated.uamivWriterCell = Generated.uamivReaderCell ∧ Generated.uamivWriterTime = Generated.uamivReaderTime ∧
    Generated.uamivWriterEmiss.map (fun l => l.sum - 2) = some 76 ∧ Generated.uamivWriterGrid.map (fun l => l.sum - 2) = some 15 ∧
    Generated.uamivWriterCell.map (fun l => l.sum - 2) = some 4 ∧ Generated.uamivWriterTime.map (fun l => l.sum - 2) = some 4 ∧
    (∀ side ∈ [Generated.uamivWriterEmissFields, Generated.uamivReaderEmissFields], side.bind (·.lookup "nspec") = some 71) ∧
    (∀ side ∈ [Generated.uamivWriterGridFields, Generated.uamivReaderGridFields],
      side.bind (·.lookup "nx") = some 7 ∧ side.bind (·.lookup "ny") = some 8 ∧ side.bind (·.lookup "nz") = some 9) ∧
    ∀ w : List Word, hNspec w = w.getD (1 + 71) 0 ∧ hNx w = w.getD (1 + 76 + 2 + 7) 0 ∧
      hNy w = w.getD (1 + 76 + 2 + 8) 0 ∧ hNz w = max (w.getD (1 + 76 + 2 + 9) 0) 1 := by
  refine ⟨by decide, by decide, by decide, by decide, by decide, by decide, by decide, by decide, by decide +kernel,
    by decide +kernel,
    fun w => ⟨rfl, rfl, rfl, rfl⟩⟩

/-! ### slab formats (one3d, humidity, vertical diffusivity, temperature, height/pressure) -/

/-- **the records tile the file**: a record walker consumes the encoding of any slab file exactly and returns
one record per slab, in (step, slab) order -/
theorem slab_tiles (f : Slab.SFile) :
    parseRecords (Slab.encode f).length (Slab.encode f) = some (Slab.rows f) :=
  parse_encode (Slab.rows f) _ (Nat.le_refl _)

/-- **every record carries what was written**: the time, the date and the cells of its slab -/
theorem slab_record_content (f : Slab.SFile) (r : List Word) (h : r ∈ Slab.rows f) :
    ∃ s ∈ f.steps, ∃ c ∈ s.slabs, r = s.time :: s.date :: c := by
  simp only [Slab.rows, List.mem_flatten, List.mem_map] at h
  obtain ⟨rs, ⟨s, hs, rfl⟩, hr⟩ := h
  simp only [Slab.stepRows, List.mem_map] at hr
  obtain ⟨c, hc, rfl⟩ := hr
  exact ⟨s, hs, c, hc, rfl⟩

/-! ### cloud/rain files -/

/-- the records tile the file: header, then per step the time record followed by one record per
(layer, variable), in that order -/
theorem cloud_rain_tiles (f : CloudRain.CFile) :
    parseRecords (CloudRain.encode f).length (CloudRain.encode f) = some (CloudRain.records f) :=
  parse_encode (CloudRain.records f) _ (Nat.le_refl _)

/-- the header record declares the grid the data records are cut to, and the number of records is
1 + steps · (1 + slabs per step) -/
theorem cloud_rain_counts (f : CloudRain.CFile) (m : Nat) (h : ∀ s ∈ f.steps, s.slabs.length = m) :
    (CloudRain.records f).head? = some (f.desc ++ [f.nx, f.ny, f.nz]) ∧
    (CloudRain.records f).length = 1 + f.steps.length * (1 + m) := by
  have hu : ∀ b ∈ f.steps.map (fun s => [s.time, s.date] :: s.slabs), b.length = 1 + m :=
    List.forall_mem_map.mpr fun s hs => by rw [List.length_cons, h s hs, Nat.add_comm]
  exact ⟨rfl, by rw [CloudRain.records, List.length_cons, List.length_flatten_uniform hu, List.length_map, Nat.add_comm]⟩

/-- **C09 (cloud/rain: the reader on reference files).** the memory-mapped cloud/rain reader presents exactly the
encoded description, grid and steps, for 3- and 5-variable files that are not ambiguous in size -/
theorem cloud_rain_read (nv : Nat) (f : CloudRain.CFile) (w : CloudRain.WFc nv f) :
    CloudRain.read (CloudRain.encode f) = some f := CloudRain.read_encode nv f w

/-! ### wind files -/

/-- the records tile the file: per step the header, 2·nz slabs and the one-word closing record -/
theorem wind_tiles (steps : List Wind.WStep) :
    parseRecords (Wind.encode steps).length (Wind.encode steps) = some (Wind.records steps) :=
  parse_encode (Wind.records steps) _ (Nat.le_refl _)

/-- every step contributes its header, its slabs in order and exactly one closing record -/
theorem wind_step_shape (s : Wind.WStep) :
    (Wind.stepRecords s).length = s.slabs.length + 2 ∧ (Wind.stepRecords s).getLast? = some [0] ∧
    ((Wind.stepRecords s).drop 1).take s.slabs.length = s.slabs := by
  refine ⟨by simp [Wind.stepRecords], ?_, by simp [Wind.stepRecords]⟩
  have : Wind.stepRecords s = (Wind.header s :: s.slabs) ++ [[0]] := by
    simp [Wind.stepRecords]
  rw [this, List.getLast?_append]
  simp

/-- **C09 (wind: the reader on reference files).** the memory-mapped wind reader, given the grid size, presents exactly
the encoded steps — any number of steps (one included), layers, cells ≥ 2, either header variant, any payload -/
theorem wind_read (cells nz h : Nat) (steps : List Wind.WStep) (w : Wind.WFw cells nz h steps) :
    Wind.read cells (Wind.encode steps) = some steps := Wind.read_encode cells nz h steps w

/-- non-vacuity: a two-step wind file with a three-word header, and a one-step 3-variable cloud/rain file -/
example : Wind.WFw 2 1 3 [⟨1, 19200, some 0, [[1, 2], [3, 4]]⟩, ⟨2, 19200, some 0, [[5, 6], [7, 8]]⟩] ∧
    CloudRain.WFc 3 ⟨[1, 2], 2, 1, 1, [⟨7, 19200, [[1, 2], [3, 4], [5, 6]]⟩]⟩ := by
  exact ⟨⟨by decide +kernel, by decide +kernel, by decide +kernel, by decide +kernel, by decide +kernel⟩,
    ⟨by decide +kernel, by decide +kernel, by decide +kernel⟩⟩

/-! ### lateral boundary files -/

/-- the records tile the file: four headers, four boundary definitions, then per step the time record and the
(species, edge) records in order -/
theorem boundary_tiles (f : Boundary.BFile) :
    parseRecords (Boundary.encode f).length (Boundary.encode f) = some (Boundary.records f) :=
  parse_encode (Boundary.records f) _ (Nat.le_refl _)

/-- the number of records is 8 + steps · (1 + 4 · species) when every step carries four edges per species -/
theorem boundary_counts (f : Boundary.BFile) (nspec : Nat) (hh : f.headers.length = 4) (hd : f.defs.length = 4)
    (h : ∀ s ∈ f.steps, s.recs.length = 4 * nspec) :
    (Boundary.records f).length = 8 + f.steps.length * (1 + 4 * nspec) := by
  have hu : ∀ b ∈ f.steps.map (fun s => s.hdr :: s.recs), b.length = 1 + 4 * nspec :=
    List.forall_mem_map.mpr fun s hs => by rw [List.length_cons, h s hs, Nat.add_comm]
  rw [Boundary.records, List.length_append, List.length_append, hh, hd, List.length_flatten_uniform hu, List.length_map]

/-- **C09 (lateral boundary: the reader on reference files).** the memory-mapped boundary reader presents exactly the
encoded records: headers, edge definitions and, per step, the time record and the four edge records of every species -/
theorem boundary_read (nspec nx ny nz : Nat) (f : Boundary.BFile) (w : Boundary.WFb nspec nx ny nz f) :
    Boundary.read (Boundary.encode f) = some f := Boundary.read_encode nspec nx ny nz f w

/-- a one-species boundary file on a 2 x 1 grid with one layer and two time steps -/
def exBoundary : Boundary.BFile where
  headers := [List.replicate 71 0 ++ [1, 0, 0, 0, 0], [0, 0, 0, 0, 0, 0, 0, 2, 1, 1, 0, 0, 0, 0, 0], [1, 1, 2, 1],
    List.replicate 10 65]
  defs := [List.replicate 7 0, List.replicate 7 0, List.replicate 11 0, List.replicate 11 0]
  steps := [⟨[1, 2, 3, 4], [List.replicate 13 5, List.replicate 13 6, List.replicate 14 7, List.replicate 14 8]⟩,
    ⟨[5, 6, 7, 8], [List.replicate 13 9, List.replicate 13 10, List.replicate 14 11, List.replicate 14 12]⟩]

/-- non-vacuity: the example is well-formed and is read back -/
example : Boundary.WFb 1 2 1 1 exBoundary ∧ Boundary.read (Boundary.encode exBoundary) = some exBoundary := by
  have w : Boundary.WFb 1 2 1 1 exBoundary :=
    ⟨⟨_, _, _, _, rfl, by decide +kernel⟩, by decide +kernel, by decide +kernel, by decide +kernel, by decide +kernel⟩
  exact ⟨w, boundary_read 1 2 1 1 exBoundary w⟩

/-! ### landuse files -/

/-- **C09 (landuse: tiling).** The file the landuse writer emits is a gap-free sequence of records whose markers
agree: the key and data records of the fractions and of every optional field, in file order. -/
theorem landuse_tiles (f : Landuse.LFile) :
    parseRecords (Landuse.write f).length (Landuse.write f) = some (Landuse.records f) :=
  parse_encode (Landuse.records f) _ (Nat.le_refl _)

/-- **C09 (landuse: counts).** two records per field in a new-style file, one in an old-style file; the size is the
fractions' field plus one fixed-size field per optional record (which is how the reader counts them) -/
theorem landuse_counts (cells : Nat) (f : Landuse.LFile) (h : Landuse.WF cells f) :
    (Landuse.records f).length = (if f.newstyle then 2 else 1) * (1 + (Landuse.optRecs f).length) ∧
    (Landuse.write f).length = Landuse.fieldSize f.newstyle (f.nland * cells) +
      (Landuse.optRecs f).length * Landuse.fieldSize f.newstyle cells :=
  ⟨Landuse.records_count f, Landuse.write_length cells f h⟩

/-- **C09 (landuse: the reader on reference files).** the reader presents exactly the encoded content -/
theorem landuse_read (cells : Nat) (f : Landuse.LFile) (h : Landuse.WF cells f) :
    Landuse.read cells (Landuse.write f) = some f := Landuse.read_write cells f h

end Props.C09
