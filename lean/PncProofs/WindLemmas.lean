import PncModel.Camx.WindRead
import PncProofs.CamxLemmas

/-! The wind format (`PncModel/Camx/WindRead.lean`): the memory-mapped reader undoes the encoder, and what it does on
every prefix of a file. -/
namespace Wind
open Words Slab

/-! ### the encoding step by step, and the step loop on it -/

def StepOK (cells nz h : Nat) (s : WStep) : Prop :=
  s.slabs.length = 2 * nz ∧ (∀ c ∈ s.slabs, c.length = cells) ∧ (header s).length = h

/-- what a file must satisfy for the reader: at least one step, every step `StepOK cells nz h` (`shape`); grids of at
least two cells (a one-cell data record has the size of the closing record) -/
structure WFw (cells nz h : Nat) (steps : List WStep) : Prop where
  nonempty : steps ≠ []
  cells2 : 2 ≤ cells
  nz1 : 1 ≤ nz
  hdr : h = 2 ∨ h = 3
  shape : ∀ s ∈ steps, s.slabs.length = 2 * nz ∧ (∀ c ∈ s.slabs, c.length = cells) ∧ (header s).length = h

/-- the header frame, `2 nz` data frames, the three-word closing frame -/
def stepLen (cells nz h : Nat) : Nat := (h + 2) + (cells + 2) * (2 * nz) + 3

theorem stepLen_pos (cells nz h : Nat) : 0 < stepLen cells nz h := Nat.succ_pos _

def stepWords (s : WStep) : List Word := encodeRecs (stepRecords s)

theorem stepWords_eq (s : WStep) : stepWords s = frame (header s) ++ (encodeRecs s.slabs ++ frame [0]) := by
  rw [stepWords, stepRecords, encodeRecs_cons, encodeRecs_append]
  rfl

theorem header_length (s : WStep) : (header s).length = 2 ∨ (header s).length = 3 := by
  unfold header
  cases s.stag
  · exact Or.inl rfl
  · exact Or.inr rfl

theorem slabWords_length {cells nz : Nat} {s : WStep} (hs : s.slabs.length = 2 * nz) (hc : ∀ c ∈ s.slabs, c.length = cells) :
    (encodeRecs s.slabs).length = (cells + 2) * (2 * nz) := by
  rw [encodeRecs_length_uniform hc, hs, Nat.mul_comm]

theorem stepWords_length {cells nz h : Nat} {s : WStep} (ok : StepOK cells nz h s) :
    (stepWords s).length = stepLen cells nz h := by
  rw [stepWords_eq, List.length_append, List.length_append, frame_length, frame_length, ok.2.2, slabWords_length ok.1 ok.2.1]
  exact (Nat.add_assoc _ _ _).symm

theorem dataRow_frame (c : List Word) : dataRow (frame c) = some c := by
  unfold dataRow
  rw [if_pos (frame_markers c)]
  simp [frame]

theorem mapM_dataRow (rows : List (List Word)) : (rows.map frame).mapM dataRow = some rows := by
  induction rows with
  | nil => rfl
  | cons c rest ih =>
    simp only [List.map_cons, List.mapM_cons, dataRow_frame, ih]
    rfl

theorem dataRows_frames {cells : Nat} {rows : List (List Word)} (hc : ∀ c ∈ rows, c.length = cells) :
    (chunk (cells + 2) (encodeRecs rows) (encodeRecs rows).length).mapM dataRow = some rows := by
  rw [encodeRecs, chunk_flatten (cells + 2) (Nat.succ_pos _) _ _ (frames_uniform hc) (Nat.le_refl _), mapM_dataRow]

theorem parseStep_stepWords {cells nz h : Nat} {s : WStep} (ok : StepOK cells nz h s) :
    parseStep h cells nz (stepWords s) = some s := by
  obtain ⟨hs, hc, rfl⟩ := ok
  unfold parseStep
  simp only [stepWords_eq, take_frame, drop_frame]
  rw [← slabWords_length hs hc, List.take_left, if_neg (not_not_intro rfl), dataRows_frames hc]
  obtain ⟨t, d, g, sl⟩ := s
  cases g <;> rfl

theorem readSteps_loop (h cells nz W : Nat) : List.BlockLoop (readSteps h cells nz W) (parseStep h cells nz) W :=
  ⟨fun _ => rfl, fun k ws => by
    rw [readSteps]
    cases parseStep h cells nz (ws.take W) <;> cases readSteps h cells nz W k (ws.drop W) <;> rfl⟩

theorem encode_eq (steps : List WStep) : encode steps = (steps.map stepWords).flatten := by
  rw [encode, records, encodeRecs_flatten, List.map_map]
  rfl

theorem encode_cons (s : WStep) (rest : List WStep) : encode (s :: rest) = stepWords s ++ encode rest := by
  rw [encode_eq, encode_eq, List.map_cons, List.flatten_cons]

theorem blocks_uniform {cells nz h : Nat} {steps : List WStep} (hall : ∀ s ∈ steps, StepOK cells nz h s) :
    ∀ b ∈ steps.map stepWords, b.length = stepLen cells nz h :=
  List.forall_mem_map.mpr fun s hs => stepWords_length (hall s hs)

theorem encode_length {cells nz h : Nat} {steps : List WStep} (hall : ∀ s ∈ steps, StepOK cells nz h s) :
    (encode steps).length = steps.length * stepLen cells nz h := by
  rw [encode_eq, List.length_flatten_uniform (blocks_uniform hall), List.length_map]

theorem readSteps_prefix {cells nz h : Nat} {steps : List WStep} (hall : ∀ s ∈ steps, StepOK cells nz h s)
    (k n : Nat) (hk : k ≤ steps.length) (hn : k * stepLen cells nz h ≤ n) :
    readSteps h cells nz (stepLen cells nz h) k ((encode steps).take n) = some (steps.take k) := by
  have L := readSteps_loop h cells nz (stepLen cells nz h)
  have hk' := L.flatten stepWords (steps.take k) ((steps.drop k).map stepWords).flatten fun s hs =>
    have ok := hall s (List.mem_of_mem_take hs)
    ⟨stepWords_length ok, parseStep_stepWords ok⟩
  rw [List.length_take, Nat.min_eq_left hk, ← List.flatten_append, ← List.map_append, List.take_append_drop,
    ← encode_eq] at hk'
  rw [L.take k n _ hn, hk']

/-! ### the reader up to the step loop -/

theorem countData_frames (cells : Nat) (t : List Word) (rows : List (List Word)) : ∀ (n fuel : Nat),
    (∀ c ∈ rows, c.length = cells) →
    countData (4 * cells) (rows.length + fuel) (encodeRecs rows ++ t) n = countData (4 * cells) fuel t (n + rows.length) := by
  induction rows with
  | nil =>
    intro n fuel _
    rw [List.length_nil, Nat.zero_add, Nat.add_zero]
    rfl
  | cons c rows ih =>
    intro n fuel h
    have hd := drop_frame c (encodeRecs rows ++ t)
    rw [h c List.mem_cons_self] at hd
    rw [List.length_cons, Nat.add_right_comm, countData, encodeRecs_cons, List.append_assoc,
      if_neg (by rw [frame_eq_cons]; exact Bool.false_ne_true), headD_frame, h c List.mem_cons_self, if_pos rfl,
      Nat.mul_div_cancel_left _ (Nat.succ_pos 3), hd,
      ih (n + 1) fuel fun x hx => h x (List.mem_cons_of_mem _ hx), Nat.add_assoc, Nat.add_comm 1]

theorem countData_closed (cells : Nat) (t : List Word) (ht : t ≠ []) (hh : t.headD 0 ≠ 4 * cells)
    (rows : List (List Word)) (fuel : Nat) (hc : ∀ c ∈ rows, c.length = cells) (hf : rows.length + 1 ≤ fuel) :
    countData (4 * cells) fuel (encodeRecs rows ++ t) 0 = some rows.length := by
  obtain ⟨fuel, rfl⟩ : ∃ k, fuel = rows.length + (k + 1) := ⟨fuel - rows.length - 1, by omega⟩
  rw [countData_frames cells t rows 0 _ hc, countData, if_neg (by simpa using ht), if_neg hh, Nat.zero_add]

theorem countData_trunc (cells : Nat) : ∀ (rows : List (List Word)) (m n fuel : Nat),
    (∀ c ∈ rows, c.length = cells) →
    countData (4 * cells) fuel ((encodeRecs rows).take m) n = none
  | _, _, _, 0, _ => rfl
  | [], m, n, fuel + 1, _ => by simp [countData, encodeRecs_nil]
  | c :: rs, 0, n, fuel + 1, _ => by simp [countData]
  | c :: rs, m + 1, n, fuel + 1, h => by
    have hc := h c List.mem_cons_self
    have hd := drop_frame c (encodeRecs rs)
    have hne : ((frame c ++ encodeRecs rs).take (m + 1)).isEmpty = false := rfl
    have hhead : ((frame c ++ encodeRecs rs).take (m + 1)).headD 0 = 4 * cells := by rw [← hc]; rfl
    rw [hc] at hd
    rw [countData, encodeRecs_cons, hne, if_neg Bool.false_ne_true, hhead, if_pos rfl,
      Nat.mul_div_cancel_left _ (Nat.succ_pos 3), List.drop_take, hd]
    exact countData_trunc cells rs _ _ fuel fun x hx => h x (List.mem_cons_of_mem _ hx)

theorem read_of_countData_none (cells : Nat) (ws : List Word)
    (hcnt : ∀ h, hdrWords ws = some h → countData (4 * cells) (ws.drop (h + 2)).length (ws.drop (h + 2)) 0 = none) :
    read cells ws = none := by
  unfold read
  cases hw : hdrWords ws with
  | none => rfl
  | some h =>
    simp only
    by_cases hsz : (ws.drop (h + 2)).headD 0 = 4 * cells
    · rw [if_neg (not_not_intro hsz), hsz, hcnt h hw]
    · rw [if_pos hsz]

theorem headD_of_hdrWords {ws : List Word} {h : Nat} (hw : hdrWords ws = some h) : ws.headD 0 = 4 * h := by
  unfold hdrWords at hw
  split at hw
  · next h8 => rw [h8, ← Option.some.inj hw]
  · split at hw
    · next h12 => rw [h12, ← Option.some.inj hw]
    · cases hw

/-- `t` is anything that starts like the closing record, so that a file cut inside the closing record is covered -/
theorem read_run {cells nz h : Nat} {s : WStep} (ok : StepOK cells nz h s) (hc2 : 2 ≤ cells) (hnz : 1 ≤ nz)
    (t : List Word) (hne : t ≠ []) (ht : t.headD 0 = 4)
    (ws : List Word) (hws : ws = frame (header s) ++ (encodeRecs s.slabs ++ t)) :
    read cells ws =
      if ws.length / stepLen cells nz h = 0 then none
      else readSteps h cells nz (stepLen cells nz h)
        (ws.length / stepLen cells nz h) ws := by
  obtain ⟨hs, hc, rfl⟩ := ok
  have hhw : hdrWords ws = some (header s).length := by
    rw [hws]
    unfold hdrWords
    rw [headD_frame]
    rcases header_length s with h2 | h3
    · rw [h2]
      rfl
    · rw [h3]
      rfl
  have hrest : ws.drop ((header s).length + 2) = encodeRecs s.slabs ++ t := by rw [hws, drop_frame]
  obtain ⟨c0, cs, hsl⟩ := List.exists_cons_of_length_pos (show 0 < s.slabs.length from hs ▸ Nat.mul_pos Nat.two_pos hnz)
  have hhead : (encodeRecs s.slabs ++ t).headD 0 = 4 * cells := by
    rw [hsl, encodeRecs_cons, List.append_assoc, headD_frame, hc c0 (by rw [hsl]; exact List.mem_cons_self)]
  have hbl : (encodeRecs s.slabs).length = 2 * nz * (cells + 2) := by
    rw [slabWords_length hs hc, Nat.mul_comm]
  have ht4 : t.headD 0 ≠ 4 * cells := by
    rw [ht]
    exact Nat.ne_of_lt (Nat.lt_of_lt_of_le (by decide : 4 < 4 * 2) (Nat.mul_le_mul_left 4 hc2))
  have hcnt := countData_closed cells t hne ht4 s.slabs (encodeRecs s.slabs ++ t).length hc (by
    rw [List.length_append, hbl, hs]
    exact Nat.add_le_add (Nat.le_mul_of_pos_right _ (Nat.succ_pos _)) (List.length_pos_iff.mpr hne))
  have hdummy : ((encodeRecs s.slabs ++ t).drop (2 * nz * (cells + 2))).headD 0 = 4 := by
    rw [← hbl, List.drop_left, ht]
  have hnz' : (2 * nz + 1) / 2 = nz := Nat.mul_add_div Nat.two_pos nz 1
  unfold read
  simp only [hhw, hrest, hhead, ne_eq, not_true_eq_false, if_false, hcnt, hs, hnz', hdummy]
  rfl

theorem read_step_append {cells nz h : Nat} {s : WStep} (ok : StepOK cells nz h s) (hc2 : 2 ≤ cells) (hnz : 1 ≤ nz)
    (more : List Word) :
    read cells (stepWords s ++ more) =
      readSteps h cells nz (stepLen cells nz h)
        ((stepWords s ++ more).length / stepLen cells nz h) (stepWords s ++ more) := by
  rw [read_run ok hc2 hnz (frame [0] ++ more) (by simp [frame]) rfl (stepWords s ++ more)
    (by rw [stepWords_eq, List.append_assoc, List.append_assoc]), if_neg]
  rw [List.length_append, stepWords_length ok]
  exact Nat.ne_of_gt (Nat.div_pos (Nat.le_add_right _ _) (stepLen_pos cells nz h))

/-! ### prefixes of a wind file -/

theorem read_first_step_cut {cells nz h : Nat} {s : WStep} (ok : StepOK cells nz h s) (hc2 : 2 ≤ cells) (hnz : 1 ≤ nz)
    (n : Nat) (hn : n < stepLen cells nz h) :
    read cells ((stepWords s).take n) = none := by
  have hbl := slabWords_length ok.1 ok.2.1
  by_cases hcl : (h + 2) + (cells + 2) * (2 * nz) < n
  · -- inside the closing record: the step size is settled, the length test fails
    obtain ⟨j, rfl⟩ := Nat.exists_eq_add_of_lt hcl
    have hws : (stepWords s).take ((h + 2) + (cells + 2) * (2 * nz) + j + 1) =
        frame (header s) ++ (encodeRecs s.slabs ++ (frame [0]).take (j + 1)) := by
      rw [Nat.add_assoc, Nat.add_assoc, stepWords_eq, ← ok.2.2, ← frame_length, List.take_length_add_append, ← hbl,
        List.take_length_add_append]
    rw [read_run ok hc2 hnz _ (List.cons_ne_nil _ _) rfl _ hws, if_pos]
    rw [List.length_take, stepWords_length ok, Nat.min_eq_left (Nat.le_of_lt hn)]
    exact Nat.div_eq_of_lt hn
  · -- before the closing record: the count of data records does not close
    obtain ⟨-, hc, rfl⟩ := ok
    refine read_of_countData_none cells _ fun h' hw => ?_
    rcases n with _ | n
    · rfl
    · obtain rfl : (header s).length = h' := by
        have h4 : 4 * (header s).length = 4 * h' := by rw [stepWords_eq] at hw; exact headD_of_hdrWords hw
        exact Nat.eq_of_mul_eq_mul_left (Nat.succ_pos 3) h4
      rw [List.drop_take, stepWords_eq, drop_frame, List.take_append_of_le_length
        (Nat.sub_le_of_le_add (by rw [hbl, Nat.add_comm _ ((header s).length + 2)]; exact Nat.le_of_not_lt hcl))]
      exact countData_trunc cells s.slabs _ _ _ hc

theorem read_prefix (cells nz h : Nat) (steps : List WStep) (w : WFw cells nz h steps) (n : Nat) :
    read cells ((encode steps).take n) =
      if n < stepLen cells nz h then none
      else some (steps.take (n / stepLen cells nz h)) := by
  obtain ⟨hne, hc2, hnz, -, hall⟩ := w
  obtain ⟨s, rest, rfl⟩ := List.exists_cons_of_ne_nil hne
  have ok : StepOK cells nz h s := hall s List.mem_cons_self
  have hl := stepWords_length ok
  have hlen := encode_length hall
  have hcut := read_first_step_cut ok hc2 hnz n
  have happ := read_step_append ok hc2 hnz ((encode rest).take (n - (stepWords s).length))
  have hpre := fun k => readSteps_prefix hall k n
  have hW := stepLen_pos cells nz h
  generalize stepLen cells nz h = W at *
  by_cases hn : n < W
  · rw [if_pos hn, encode_cons, List.take_append_of_le_length (by rw [hl]; exact Nat.le_of_lt hn)]
    exact hcut hn
  · rw [if_neg hn]
    -- the first step is whole, so the step size is settled; the loop then reads the whole steps of the prefix
    have htk : (encode (s :: rest)).take n = stepWords s ++ (encode rest).take (n - (stepWords s).length) := by
      rw [encode_cons, List.take_append, List.take_of_length_le (by rw [hl]; exact Nat.le_of_not_lt hn)]
    rw [htk, happ, ← htk, List.length_take, hlen]
    rcases Nat.le_total n ((s :: rest).length * W) with hle | hge
    · rw [Nat.min_eq_left hle]
      exact hpre (n / W) (Nat.div_le_of_le_mul (by rw [Nat.mul_comm]; exact hle)) (Nat.div_mul_le_self n W)
    · rw [Nat.min_eq_right hge, Nat.mul_div_cancel _ hW, hpre _ (Nat.le_refl _) hge, List.take_length,
        List.take_of_length_le ((Nat.le_div_iff_mul_le hW).mpr hge)]

theorem read_encode (cells nz h : Nat) (steps : List WStep) (w : WFw cells nz h steps) :
    read cells (encode steps) = some steps := by
  have hlen := encode_length w.shape
  have hpos := List.length_pos_iff.mpr w.nonempty
  have := read_prefix cells nz h steps w (encode steps).length
  rwa [List.take_length, hlen, if_neg (Nat.not_lt.mpr (Nat.le_mul_of_pos_left _ hpos)),
    Nat.mul_div_cancel _ (stepLen_pos cells nz h), List.take_length] at this

end Wind
