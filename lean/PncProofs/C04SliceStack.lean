import PncProofs.C04Split

/-!
# C04 — slicing the stack of two files at the extent of each piece gives the piece back
(the converse direction, cutting a file and stacking the pieces: PncProofs/C04Split.lean)
-/
namespace Props.C04
open PFile Arr Props.C01

theorem stack_pair_dimLen (a b r : File) (sd : String) (hna : Props.C01.DimsNodup a) (hr : stackFiles [a, b] sd = .ok r) :
    r.dimLen sd = a.dimLen sd + b.dimLen sd ∧
      ∀ k, k ≠ sd → (a.dim? k).isSome = true → r.dimLen k = a.dimLen k ∧ b.dimLen k = a.dimLen k := by
  refine ⟨by simpa using (stack_dim_sd hr).2, fun k hk hsome => ?_⟩
  have ha : a ∈ [a, b] := List.mem_cons_self
  have h := (stack_dim_other hna hr ha hk hsome).2
  exact ⟨h a ha, (h b (List.mem_cons_of_mem _ List.mem_cons_self)).symm.trans (h a ha)⟩

/-- **slicing the stack at a piece's extent, one variable.** `a`, `b` well-formed, `stack [a, b]` along `sd` returned `r`;
`v` a variable of `a` with `sd` on exactly one axis. Whatever `stack` made of `v`: the second file has a variable `w` of that
name, and if `w` has the dimension tuple of `v`, then the cut of the stacked variable to `[0, |a|)` along `sd` is `v` and the
cut to `[|a|, |a| + |b|)` has the cells of `w`. -/
theorem slice_of_stackVar (a b r : File) (sd : String) (hwa : Props.C01.WF a) (hwb : Props.C01.WF b)
    (hna : Props.C01.DimsNodup a) (hvn : NamesNodup a) (hr : stackFiles [a, b] sd = .ok r) (v : Var) (hv : v ∈ a.vars)
    (hone : (v.dims.filter (· == sd)).length = 1) (y : Var) (hy : stackVar [a, b] sd v = .ok y) :
    ∃ w, b.var? v.name = some w ∧ (w.dims = v.dims →
      cutVar r sd (List.range' 0 (a.dimLen sd)) y = v ∧
      cutVar r sd (List.range' (a.dimLen sd) (b.dimLen sd)) y = { v with data := w.data }) := by
  have hmem : sd ∈ v.dims := List.mem_of_filter_length_eq_one hone
  have hcont : v.dims.contains sd = true := List.contains_iff_mem.mpr hmem
  obtain ⟨ws, hws, rfl⟩ := (stackVar_data [a, b] sd v y hy).2 hcont
  simp only [List.mapM_cons, List.mapM_nil, File.var?_of_mem hvn hv] at hws
  cases hw : b.var? v.name with
  | none =>
    rw [hw] at hws
    cases hws
  | some w =>
    rw [hw] at hws
    cases hws
    refine ⟨w, rfl, fun hwd => ?_⟩
    obtain ⟨hsd, hoff⟩ := stack_pair_dimLen a b r sd hna hr
    have hva := hwa v hv
    obtain ⟨hk, hlen⟩ := List.idxOf_map_getD a.dimLen sd v.dims 0 hmem
    -- shapes: under r and under b the dimension tuple of v differs from that under a only at the axis of sd
    have hshR : v.dims.map r.dimLen = (v.dims.map a.dimLen).set (v.dims.idxOf sd) (a.dimLen sd + b.dimLen sd) := by
      rw [← hsd]
      exact List.map_set_idxOf sd r.dimLen a.dimLen v.dims (fun k hk hne => (hoff k hne (hva.1 k hk)).1) hone
    have hb : hasShape ((v.dims.map a.dimLen).set (v.dims.idxOf sd) (b.dimLen sd)) w.data = true := by
      rw [← List.map_set_idxOf sd b.dimLen a.dimLen v.dims (fun k hk hne => (hoff k hne (hva.1 k hk)).2) hone,
        ← hwd]
      exact (hwb w (File.var?_mem hw).1).2
    have hL := window_concat_left (v.dims.map a.dimLen) (v.dims.idxOf sd) (b.dimLen sd) v.data w.data hk hva.2 hb
    have hR := window_concat_right (v.dims.map a.dimLen) (v.dims.idxOf sd) (b.dimLen sd) v.data w.data hk hva.2 hb
    rw [hlen, ← hshR] at hL hR
    constructor
    · exact (cutVar_window r _ _ { v with data := concat (v.dims.idxOf sd) v.data w.data } hone).trans
        (congrArg (fun d => { v with data := d }) hL)
    · exact (cutVar_window r _ _ { v with data := concat (v.dims.idxOf sd) v.data w.data } hone).trans
        (congrArg (fun d => { v with data := d }) hR)

/-- what the second file contributes to a variable of the first: its cells, where the variable has the stack dimension -/
def secondView (b : File) (sd : String) (v : Var) : Var :=
  if v.dims.contains sd then
    match b.var? v.name with
    | some w => { v with data := w.data }
    | none => v
  else v

/-- **C04 (slicing the stack at a piece's extent reproduces the piece; file operations).** `a` meets the invariant, `b` is
well formed, every variable of `b` is one of `a` by name, same-named variables have the same dimension tuple, no variable
of `a` has `sd` twice. If `stack [a, b]` along `sd` returns `r`, then `sliceDimensions(sd=slice(0, |a|))` of `r` returns a
file with exactly the variables (every cell), the length of `sd` and the attributes of `a`, and
`sliceDimensions(sd=slice(|a|, |a| + |b|))` returns a file whose `sd` has the length it has in `b` and whose variables
with `sd` have the cells of the variables of `b` (those without `sd` are the first file's). -/
theorem slice_of_stack (a b r : File) (sd nd : String) (hia : Props.C01.Inv a) (hwb : Props.C01.WF b)
    (hsub : ∀ w ∈ b.vars, ∃ v ∈ a.vars, v.name = w.name)
    (hconf : ∀ v ∈ a.vars, ∀ w, b.var? v.name = some w → w.dims = v.dims)
    (hone : ∀ v ∈ a.vars, (v.dims.filter (· == sd)).length ≤ 1)
    (hr : stackFiles [a, b] sd = .ok r) :
    ∃ p q, sliceFile r [(sd, .slice (some ((0 : Nat) : Int)) (some ((a.dimLen sd : Nat) : Int)) 1)] nd = .ok p ∧
      p.vars = a.vars ∧ p.dimLen sd = a.dimLen sd ∧ p.attrs = a.attrs ∧
      sliceFile r [(sd, .slice (some ((a.dimLen sd : Nat) : Int)) (some ((a.dimLen sd + b.dimLen sd : Nat) : Int)) 1)] nd = .ok q ∧
      q.vars = a.vars.map (secondView b sd) ∧ q.dimLen sd = b.dimLen sd := by
  obtain ⟨hwa, hna, hvn⟩ := hia
  obtain ⟨hsd, hoff⟩ := stack_pair_dimLen a b r sd hna hr
  obtain ⟨vars, hvars, hrr⟩ := stack_ok hr
  have hrsd : (r.dim? sd).isSome = true := (stack_dim_sd hr).1
  have hrvars : r.vars = vars := by rw [hrr]
  have hrattrs : r.attrs = a.attrs := by rw [hrr]
  rw [firstByName_first hvn (List.forall_mem_singleton.mpr hsub)] at hvars
  have hvar : ∀ v ∈ a.vars, ∀ y, stackVar [a, b] sd v = .ok y →
      cutVar r sd (List.range' 0 (a.dimLen sd)) y = v ∧
      cutVar r sd (List.range' (a.dimLen sd) (b.dimLen sd)) y = secondView b sd v := by
    intro v hv y hy
    by_cases hm : sd ∈ v.dims
    · obtain ⟨w, hw, hcut⟩ := slice_of_stackVar a b r sd hwa hwb hna hvn hr v hv
        (List.filter_length_eq_one_of_mem (hone v hv) hm) y hy
      obtain ⟨c1, c2⟩ := hcut (hconf v hv w hw)
      refine ⟨c1, ?_⟩
      rw [c2, secondView, if_pos (List.contains_iff_mem.mpr hm), hw]
    · rw [stackVar_of_not_mem _ v hm] at hy
      cases hy
      have hs : hasShape (v.dims.map r.dimLen) v.data = true := by
        rw [List.map_congr_left fun k hk => (hoff k (fun e => hm (e ▸ hk)) ((hwa v hv).1 k hk)).1]
        exact (hwa v hv).2
      rw [cutVar_noSd _ hs hm, cutVar_noSd _ hs hm, secondView, if_neg (mt List.contains_iff_mem.mp hm)]
      exact ⟨rfl, rfl⟩
  have hle : a.dimLen sd + b.dimLen sd ≤ r.dimLen sd := Nat.le_of_eq hsd.symm
  refine ⟨_, _, sliceFile_window nd hrsd (Nat.zero_le _) (Nat.le_trans (Nat.le_add_right _ _) hle), ?_, ?_, hrattrs,
    sliceFile_window nd hrsd (Nat.le_add_right _ _) hle, ?_, ?_⟩
  · show r.vars.map _ = _
    rw [Nat.sub_zero, hrvars, ← List.map_id a.vars]
    exact List.map_eq_map_of_mapM_ok _ _ hvars fun v hv y hy => (hvar v hv y hy).1
  · rw [cutFile_dimLen_sd _ hrsd, List.length_range', Nat.sub_zero]
  · show r.vars.map _ = _
    rw [Nat.add_sub_cancel_left, hrvars]
    exact List.map_eq_map_of_mapM_ok _ _ hvars fun v hv y hy => (hvar v hv y hy).2
  · rw [cutFile_dimLen_sd _ hrsd, List.length_range', Nat.add_sub_cancel_left]

/-- two files to stack: the first with a masked cell and an unlimited `t` of length 2, the second with `t` of length 1 and
other cells in both variables -/
def stackExampleA : File := ⟨[⟨"t", 2, true⟩, ⟨"x", 2, false⟩],
  [⟨"A", ["t", "x"], .node [.node [.leaf (some 1), .leaf (some 2)], .node [.leaf (some 3), .leaf none]], [], false, false⟩,
   ⟨"B", ["x"], .node [.leaf (some 7), .leaf (some 8)], [], false, false⟩], ["NOTE=first"]⟩
def stackExampleB : File := ⟨[⟨"t", 1, true⟩, ⟨"x", 2, false⟩],
  [⟨"A", ["t", "x"], .node [.node [.leaf (some 5), .leaf (some 6)]], [], false, false⟩,
   ⟨"B", ["x"], .node [.leaf (some 9), .leaf (some 10)], [], false, false⟩], ["NOTE=second"]⟩

/-- non-vacuity: the two files meet every hypothesis of `slice_of_stack` along `t`, and `stack` returns -/
example : Props.C01.Inv stackExampleA ∧ Props.C01.WF stackExampleB ∧
    (∀ w ∈ stackExampleB.vars, ∃ v ∈ stackExampleA.vars, v.name = w.name) ∧
    (∀ v ∈ stackExampleA.vars, ∀ w, stackExampleB.var? v.name = some w → w.dims = v.dims) ∧
    (∀ v ∈ stackExampleA.vars, (v.dims.filter (· == "t")).length ≤ 1) ∧
    ((stackFiles [stackExampleA, stackExampleB] "t").toOption.map (fun r => (r.dimLen "t", r.vars.map (fun v => flatten v.data)))) =
      some (3, [[some 1, some 2, some 3, none, some 5, some 6], [some 7, some 8]]) := by
  refine ⟨⟨?_, ?_, ?_⟩, ?_, ?_⟩
  · unfold WF VarWF
    decide +kernel
  · unfold DimsNodup
    decide +kernel
  · unfold NamesNodup
    decide +kernel
  · unfold WF VarWF
    decide +kernel
  · decide +kernel

end Props.C04
