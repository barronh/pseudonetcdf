import PncProofs.ZipLemmas
import PncModel.File

/-!
# C02 — dimension slicing selects exactly the requested hyperslab: property theorems

`Arr.orth sels a` is what the model of `sliceDimensions` computes for a variable when at most one
index list is involved (`sels` = the normalised index list of every axis).  The theorems say:
element-wise it is the orthogonal per-axis selection in the same order (`orth_get`), it has the
selected lengths (`orth_shape`), it is the identity when every axis is selected in full
(`orth_full_id`: variables without a selected dimension are identical), and every Python selector
normalises to in-range indices (`indices_lt`), so the in-range hypothesis is met by construction.
-/
namespace Props.C02
open Arr PySlice PFile

theorem orth_get {α} (sels : List (List Nat)) (a : Arr α) (idx : List Nat) (h : InRange sels a) :
    get (orth sels a) idx = (mapIdx sels idx).bind (get a) := Arr.orth_get sels a idx h

theorem orth_shape {α} (sels : List (List Nat)) (sh : List Nat) (a : Arr α)
    (h : hasShape sh a = true) (hr : InRange sels a) :
    hasShape (selShape sels sh) (orth sels a) = true := Arr.orth_shape sels sh a h hr

theorem orth_full_id {α} (sh : List Nat) (a : Arr α) (h : hasShape sh a = true) :
    orth (sh.map List.range) a = a := Arr.orth_full_id sh a h

theorem normInt_lt (n : Nat) (i : Int) (k : Nat) (h : normInt n i = some k) : k < n :=
  PySlice.normInt_lt n i k h

/-- the `clampv` of `sliceBounds`, for any `lower` and `upper` so that it serves both directions of the step -/
theorem clamp_mem {len lower upper v c : Int}
    (hc : c = if v < 0 then (if v + len < lower then lower else v + len) else (if v > upper then upper else v))
    (h1 : lower ≤ 0) (h2 : len - 1 ≤ upper) (h3 : lower ≤ upper) : lower ≤ c ∧ c ≤ upper := by
  subst hc
  by_cases hv : v < 0
  · rw [if_pos hv]
    by_cases hl : v + len < lower
    · rw [if_pos hl]
      exact ⟨Int.le_refl _, h3⟩
    · rw [if_neg hl]
      exact ⟨Int.not_lt.mp hl, by omega⟩
  · rw [if_neg hv]
    by_cases hu : v > upper
    · rw [if_pos hu]
      exact ⟨h3, Int.le_refl _⟩
    · rw [if_neg hu]
      exact ⟨Int.le_trans h1 (Int.not_lt.mp hv), Int.not_lt.mp hu⟩

theorem sliceBounds_fwd (n : Nat) (a b : Option Int) (st : Int) (h : ¬ st < 0) :
    0 ≤ (sliceBounds n a b st).1 ∧ (sliceBounds n a b st).2 ≤ n := by
  unfold sliceBounds
  simp only [h, if_false]
  constructor
  · cases a with
    | none => exact Int.le_refl _
    | some v => exact (clamp_mem rfl (Int.le_refl 0) (Int.sub_le_self _ Int.one_nonneg) (Int.natCast_nonneg n)).1
  · cases b with
    | none => exact Int.le_refl _
    | some v => exact (clamp_mem rfl (Int.le_refl 0) (Int.sub_le_self _ Int.one_nonneg) (Int.natCast_nonneg n)).2

theorem sliceBounds_bwd (n : Nat) (a b : Option Int) (st : Int) (h : st < 0) :
    (sliceBounds n a b st).1 ≤ n - 1 ∧ -1 ≤ (sliceBounds n a b st).2 := by
  unfold sliceBounds
  simp only [h, if_true]
  constructor
  · cases a with
    | none => exact Int.le_refl _
    | some v => exact (clamp_mem rfl (by decide) (Int.le_refl _) (Int.sub_le_sub_right (Int.natCast_nonneg n) 1)).2
  · cases b with
    | none => exact Int.le_refl _
    | some v => exact (clamp_mem rfl (by decide) (Int.le_refl _) (Int.sub_le_sub_right (Int.natCast_nonneg n) 1)).1

/-- bounds computed by `slice.indices` stay inside the ranges `mem_rangeList` needs -/
theorem sliceIndices_lt (n : Nat) (a b : Option Int) (st : Int) :
    ∀ k ∈ sliceIndices n a b st, k < n := by
  intro k hk
  -- `k` is `v.toNat` for a `v` from the start (inclusive) towards the stop (exclusive), which are clamped as above
  obtain ⟨v, rfl, ⟨hst, hv⟩ | ⟨hst, hv⟩⟩ :=
    mem_rangeList (s := (sliceBounds n a b st).1) (e := (sliceBounds n a b st).2) hk
  · -- `0 ≤ s ≤ v < e ≤ n`
    obtain ⟨hs, he⟩ := sliceBounds_fwd n a b st (Int.lt_asymm hst)
    exact (Int.toNat_lt (Int.le_trans hs hv.1)).mpr (Int.lt_of_lt_of_le hv.2 he)
  · -- `-1 ≤ e < v ≤ s ≤ n - 1`
    obtain ⟨hs, he⟩ := sliceBounds_bwd n a b st hst
    exact (Int.toNat_lt (Int.add_one_le_of_lt (Int.lt_of_le_of_lt he hv.1))).mpr
      (Int.lt_of_le_sub_one (Int.le_trans hv.2 hs))

/-- **every selector normalises to in-range indices** (ints, slices with any bounds and non-zero or
zero step, lists) — so `InRange` holds for what `sliceFile` passes to `orth` -/
theorem indices_lt (n : Nat) (s : PSel) (l : List Nat) (h : s.indices n = some l) : ∀ k ∈ l, k < n := by
  intro k hk
  cases s with
  | int i =>
    obtain ⟨k', hk', rfl⟩ := Option.map_eq_some_iff.mp h
    rw [List.mem_singleton.mp hk]
    exact PySlice.normInt_lt n i _ hk'
  | slice a b st =>
    obtain rfl := Option.some.inj h
    exact sliceIndices_lt n a b st k hk
  | list l0 =>
    obtain ⟨i, _, hi⟩ := List.mem_of_map_eq_map_some (List.mapM_option_eq_some.mp h) hk
    exact PySlice.normInt_lt n i k hi

/-- an integer selector keeps a length-1 axis (negative integers count from the end) -/
theorem int_keeps_unit_axis (n : Nat) (i : Int) (l : List Nat) (h : (PSel.int i).indices n = some l) :
    l.length = 1 := by
  simp only [PSel.indices, Option.map_eq_some_iff] at h
  obtain ⟨k, _, rfl⟩ := h
  rfl

/-- non-vacuity and a reversed, strided, partly out-of-range slice, as CPython computes it -/
example : sliceIndices 5 (some (-2)) (some (-9)) (-2) = [3, 1] ∧ sliceIndices 5 none none (-1) = [4, 3, 2, 1, 0]
    ∧ sliceIndices 5 (some 7) none 1 = [] ∧ normInt 5 (-5) = some 0 ∧ normInt 5 5 = none := by
  decide +kernel

/-! ## two or more index lists acting together (the pointwise selection on the new dimension) -/

/-- **C02 (pointwise selection, element-wise).** With index lists of one length `L` on several axes, the cell at an
index of the result — position `p` on the new axis, positions on the kept axes — is the cell of the source at: entry `p`
of every zipped list on the zipped axes, the selected entry on every other axis. Nothing else is selected, nothing is
reordered. -/
theorem zip_get {α : Type} (L : Nat) (ss : List Sel) (sh : List Nat) (a r : Arr α) (idx : List Nat)
    (h : hasShape sh a = true) (hin : ZSelsIn ss sh) (hl : ZLen L ss) (hr : zipSel L ss a = some r) :
    Arr.get r idx = (zipIdx ss idx).bind (Arr.get a) :=
  zipSel_get L ss sh a r idx h hin hl hr

/-- **C02 (pointwise selection, shape).** The result has the new axis (length `L`) where the first zipped axis was, the
other zipped axes are gone, every other axis has the length of its selection. -/
theorem zip_shape {α : Type} (L : Nat) (ss : List Sel) (sh : List Nat) (a r : Arr α)
    (h : hasShape sh a = true) (hin : ZSelsIn ss sh) (hr : zipSel L ss a = some r) :
    hasShape (zipShape L ss sh) r = true :=
  zipSel_shape L ss sh a r h hin hr

/-- non-vacuity: `A[t, [1, 0, 1], [0, 0, 1]]` of a 1 x 2 x 2 array picks (1,0), (0,0), (1,1) -/
example :
    let a : Arr Nat := .node [.node [.node [.leaf 1, .leaf 2], .node [.leaf 3, .leaf 4]]]
    let ss := [Sel.keep [0], Sel.zip [1, 0, 1], Sel.zip [0, 0, 1]]
    ZSelsIn ss [1, 2, 2] ∧ ZLen 3 ss ∧ (zipSel 3 ss a).map flatten = some [3, 1, 4] ∧
      zipShape 3 ss [1, 2, 2] = [1, 3] ∧ zipIdx ss [0, 2] = some [0, 1, 1] := by
  refine ⟨⟨by decide +kernel, by decide +kernel, by decide +kernel, trivial⟩, ⟨rfl, rfl, trivial⟩, ?_⟩
  decide +kernel

end Props.C02
