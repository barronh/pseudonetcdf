import PncProofs.C01Files

/-!
# C02 — `sliceDimensions` as a file operation: which cell of the source a cell of the result is
-/
namespace Props.C02
open Arr PFile Props.C01

/-- **C02 (sliceDimensions, element-wise, orthogonal variables).** For a variable on which at most one index list acts,
the cell at `idx` of the sliced variable is the cell of the source variable at the index that takes, on every axis, the
`idx`-th entry of that axis' selection (integer: the one index; slice: the range; list: the list; no keyword: every
index). -/
theorem sliceVar_orth_get (f : File) (sels : List (String × PSel)) (idx : List (String × List Nat)) (zipped : Bool)
    (L : Nat) (newdim : String) (v v' : Var) (hv : VarWF f v) (hidx : sliceIdx f sels = .ok idx)
    (hn : ¬ (v.dims.filter (isZipSel sels zipped)).length ≥ 2)
    (hs : sliceVar f sels idx zipped L newdim v = .ok v') (i : List Nat) :
    v'.dims = v.dims ∧
    Arr.get v'.data i = (mapIdx ((v.dims.map (selOfDim f sels idx zipped)).map selIdxs) i).bind (Arr.get v.data) := by
  obtain ⟨h, _⟩ | ⟨_, rfl⟩ := sliceVar_ok hs
  · exact absurd h hn
  exact ⟨rfl, orth_get _ _ _ (sliceVar_inRange zipped hv hidx)⟩

/-- **C02 (sliceDimensions, element-wise, two or more index lists acting together).** The cell at `idx` of the sliced
variable — position `p` on the new dimension — is the cell of the source variable at entry `p` of every list on the
listed axes and at the selected entry on every other axis. -/
theorem sliceVar_zip_get (f : File) (sels : List (String × PSel)) (idx : List (String × List Nat))
    (L : Nat) (newdim : String) (v v' : Var) (hv : VarWF f v) (hidx : sliceIdx f sels = .ok idx)
    (hn : (v.dims.filter (isZipSel sels true)).length ≥ 2)
    (hl : ZLen L (v.dims.map (selOfDim f sels idx true)))
    (hs : sliceVar f sels idx true L newdim v = .ok v') (i : List Nat) :
    Arr.get v'.data i = (zipIdx (v.dims.map (selOfDim f sels idx true)) i).bind (Arr.get v.data) := by
  obtain ⟨_, d, hd, rfl⟩ | ⟨h, _⟩ := sliceVar_ok hs
  · exact zipSel_get L _ (v.dims.map f.dimLen) v.data d i hv.2
      (zSelsIn_map _ _ v.dims (fun k _ => selOfDim_lt true hidx k)) hl hd
  · exact absurd hn h

/-- **C02 (sliceDimensions as a file operation, orthogonal selections).** When at most one index list is given, slicing
succeeds only with a file that has, for every variable of the input, one variable of the same name and dimensions whose
cell at any index is the cell of the input variable at the index that takes, on every axis, the entry of that axis'
selection — any number of variables of any rank, any mix of integers, slices and the one list, in any keyword order. -/
theorem slice_orth_cells (f r : File) (sels : List (String × PSel)) (newdim : String) (hwf : WF f)
    (hz : decide ((sels.filter (·.2.isList)).length ≥ 2) = false) (hs : sliceFile f sels newdim = .ok r) :
    ∃ idx, sliceIdx f sels = .ok idx ∧
      ∀ v' ∈ r.vars, ∃ v ∈ f.vars, v'.name = v.name ∧ v'.dims = v.dims ∧ v'.attrs = v.attrs ∧
        ∀ i, Arr.get v'.data i =
          (mapIdx ((v.dims.map (selOfDim f sels idx false)).map selIdxs) i).bind (Arr.get v.data) := by
  obtain ⟨idx, L, vars, hidx, hvars, rfl⟩ := sliceFile_ok hs
  rw [show zippedSels sels = false from hz] at hvars
  refine ⟨idx, hidx, fun v' hv' => ?_⟩
  obtain ⟨v, hvm, hsv⟩ := List.mem_of_mapM_ok hvars hv'
  rw [sliceVar_unzipped] at hsv
  cases hsv
  exact ⟨v, hvm, rfl, rfl, rfl, fun i => orth_get _ _ _ (sliceVar_inRange false (hwf v hvm) hidx)⟩

end Props.C02
