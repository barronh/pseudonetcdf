import PncModel.Camx.SlabRead
import PncProofs.ListLemmas
import Mathlib.Tactic.Ring

/-! The record-based slab readers.  All that the lemmas on their loops use of the records is `Table`: `T` steps of `m`
records on the regular time axis (`Axis`) that the readers reconstruct. -/

namespace SlabRead
open Words Slab

/-! ### the time axis -/

/-- the time axis the readers walk: `i` steps after the start -/
def iter (start : DT) (step : Int) : Nat → DT
  | 0 => start
  | i + 1 => timeadd 2400 (iter start step i) step

theorem timediff_self (a : DT) : timediff a a = 0 := by
  unfold timediff
  ring

theorem timediff_shift (a b x : DT) : timediff b x = timediff a x - timediff a b := by
  unfold timediff
  ring

theorem timeadd_noroll (a : DT) (s : Int) (h : a.2 + s < 2400) : timeadd 2400 a s = (a.1, a.2 + s) := by
  unfold timeadd
  rw [if_neg (by omega)]

theorem timeadd_step {a : DT} {s : Int} (ha : 0 ≤ a.2 ∧ a.2 < 2400) (hs : 0 < s ∧ s ≤ 2400) :
    timediff a (timeadd 2400 a s) = s ∧ 0 ≤ (timeadd 2400 a s).2 ∧ (timeadd 2400 a s).2 < 2400 := by
  unfold timeadd timediff
  split
  · simp only
    omega
  · simp only
    omega

/-- HHMM units: 2400 is a day -/
structure Axis (start : DT) (step : Int) : Prop where
  t0 : 0 ≤ start.2 ∧ start.2 < 2400
  st : 0 < step ∧ step ≤ 2400

namespace Axis
variable {start : DT} {step : Int} (ax : Axis start step)
include ax

theorem diff_tod : ∀ i : Nat, timediff start (iter start step i) = (i : Int) * step ∧
    0 ≤ (iter start step i).2 ∧ (iter start step i).2 < 2400
  | 0 => ⟨by rw [Int.natCast_zero, Int.zero_mul]; exact timediff_self start, ax.t0⟩
  | i + 1 => by
    obtain ⟨hd, ht⟩ := diff_tod i
    obtain ⟨h1, h2⟩ := timeadd_step ht ax.st
    refine ⟨?_, h2⟩
    rw [timediff_shift start] at h1
    rw [Int.natCast_succ, Int.add_mul, Int.one_mul, ← hd]
    exact Int.sub_eq_iff_eq_add'.mp h1

theorem diff (i : Nat) : timediff start (iter start step i) = (i : Int) * step := (ax.diff_tod i).1

theorem tod (i : Nat) : 0 ≤ (iter start step i).2 ∧ (iter start step i).2 < 2400 := (ax.diff_tod i).2

theorem diff_one : timediff start (iter start step 1) = step := by
  rw [ax.diff 1, Int.natCast_one, Int.one_mul]

theorem inj {i j : Nat} (h : iter start step i = iter start step j) : i = j := by
  have e := ax.diff i
  rw [h, ax.diff j] at e
  exact (Int.ofNat_inj.mp (Int.eq_of_mul_eq_mul_right (Int.ne_of_gt ax.st.1) e)).symm

/-- `fin` need not be a point of the axis: a reader that steps back from behind the end does not borrow -/
theorem tdiv {fin : DT} {j : Nat} (h : timediff start fin = (j : Int) * step) : Int.tdiv (timediff start fin) step = j := by
  rw [h, Int.mul_tdiv_cancel _ (Int.ne_of_gt ax.st.1)]

/-- the range check of `fetch` -/
theorem in_range {fin : DT} {j i : Nat} (h : timediff start fin = (j : Int) * step) (hi : i ≤ j) :
    ¬ (timediff fin (iter start step i) > 0 ∨ timediff start (iter start step i) < 0) := by
  rw [timediff_shift start fin, ax.diff, h]
  have h1 : (i : Int) * step ≤ (j : Int) * step := Int.mul_le_mul_of_nonneg_right (Int.ofNat_le.mpr hi) (Int.le_of_lt ax.st.1)
  have h2 : (0 : Int) ≤ (i : Int) * step := Int.mul_nonneg (Int.natCast_nonneg i) (Int.le_of_lt ax.st.1)
  exact not_or.mpr ⟨Int.not_lt.mpr (Int.sub_nonpos_of_le h1), Int.not_lt.mpr h2⟩

/-- the readers normalise the start and the stop of `timerange()` this way -/
theorem timeadd_zero (i : Nat) : timeadd 2400 (iter start step i) 0 = iter start step i := by
  rw [timeadd_noroll _ _ (by rw [Int.add_zero]; exact (ax.tod i).2), Int.add_zero]

theorem timeadd_zero_start : timeadd 2400 start 0 = start := ax.timeadd_zero 0

theorem trange_iter (T fuel : Nat) (hf : T + 1 ≤ fuel) :
    trange 2400 step (iter start step T) fuel start = some ((List.range T).map (iter start step)) :=
  Nat.fuel_range (loop := trange 2400 step (iter start step T)) (x := iter start step) (e := 1)
    (fun fuel i hi => by
      rw [trange, if_neg fun h => Nat.ne_of_lt hi (ax.inj h)]
      rfl)
    (fun fuel => by rw [trange, if_pos rfl]) fuel hf

/-- the ends as a reader that holds the last time passes them to `timerange()`: both normalised, the stop one step on -/
theorem trange_last (T fuel : Nat) (hT : 1 ≤ T) (hf : T + 1 ≤ fuel) :
    trange 2400 step (timeadd 2400 (timeadd 2400 (iter start step (T - 1)) step) 0) fuel (timeadd 2400 start 0) =
      some ((List.range T).map (iter start step)) := by
  have e : timeadd 2400 (iter start step (T - 1)) step = iter start step T := by
    conv_rhs => rw [← Nat.sub_add_cancel hT]
    rfl
  rw [e, ax.timeadd_zero T, ax.timeadd_zero_start, ax.trange_iter T fuel hf]

/-- the temperature reader divides with `fdiv` (`//`), the others with `tdiv` -/
theorem count {fin : DT} {T : Nat} (hT : 1 ≤ T) (h : timediff start fin = ((T - 1 : Nat) : Int) * step) :
    Int.tdiv (timediff start fin) step + 1 = T ∧ Int.fdiv (timediff start fin) step + 1 = T := by
  rw [ax.tdiv h, h, Int.mul_fdiv_cancel _ (Int.ne_of_gt ax.st.1), Int.natCast_pred_of_pos hT, Int.sub_add_cancel]
  exact ⟨rfl, rfl⟩

/-- the step back from where an end search stops borrows nothing: `fin` is not always a point of the axis -/
theorem back (T : Nat) (hT : 1 ≤ T) : ∃ fin : DT, timeadd 2400 (iter start step T) (-step) = fin ∧
    timediff start fin = ((T - 1 : Nat) : Int) * step ∧ timeadd 2400 fin step = iter start step T ∧
    (fin.1, fin.2 + step) = iter start step T := by
  have hd := ax.diff T
  have ht := ax.tod T
  have hs := ax.st
  have e : ((iter start step T).1, (iter start step T).2 - step + step) = iter start step T := by
    rw [Int.sub_add_cancel]
  refine ⟨((iter start step T).1, (iter start step T).2 - step), timeadd_noroll _ _ (by omega), ?_, ?_, e⟩
  · rw [Int.natCast_pred_of_pos hT, Int.sub_mul, Int.one_mul, ← hd]
    unfold timediff
    ring
  · rw [timeadd_noroll _ step (by simp only; omega)]
    exact e

end Axis

/-! ### the records as a table -/

theorem recDT_frame (t d : Word) (c : List Word) : recDT (frame (t :: d :: c)) = (((d : Nat) : Int), truncF32 t) :=
  rfl

structure Table (rs : List (List Word)) (T m : Nat) (start : DT) (step : Int) (cellsOf : Nat → Nat → List Word) : Prop where
  axis : Axis start step
  len : rs.length = T * m
  row : ∀ i j, i < T → j < m → ∃ r, rs[i * m + j]? = some r ∧ recDT r = iter start step i ∧ recCells r = cellsOf i j

section
variable {rs : List (List Word)} {T m L stride : Nat} {start : DT} {step : Int} {cellsOf : Nat → Nat → List Word}

theorem Table.row0 (tb : Table rs T m start step cellsOf) (hT : 0 < T) {j : Nat} (hj : j < m) :
    ∃ r, rs[j]? = some r ∧ recDT r = start ∧ recCells r = cellsOf 0 j := by
  have := tb.row 0 j hT hj
  rwa [Nat.zero_mul, Nat.zero_add] at this

theorem Table.eq_cons (tb : Table rs T m start step cellsOf) (hT : 0 < T) (hm : 0 < m) :
    ∃ r0 tl, rs = r0 :: tl ∧ recDT r0 = start := by
  obtain ⟨r, hr, hdt, -⟩ := tb.row0 hT hm
  cases rs with
  | nil => cases hr
  | cons r0 tl =>
    cases hr
    exact ⟨_, _, rfl, hdt⟩

theorem Table.row1 (tb : Table rs T m start step cellsOf) (hT : 1 < T) (hm : 0 < m) :
    ∃ r, rs[m]? = some r ∧ recDT r = iter start step 1 := by
  obtain ⟨r, hr, hdt, -⟩ := tb.row 1 0 hT hm
  rw [Nat.one_mul, Nat.add_zero] at hr
  exact ⟨r, hr, hdt⟩

theorem Table.last (tb : Table rs T m start step cellsOf) (hT : 0 < T) (hm : 0 < m) :
    ∃ r, rs.getLast? = some r ∧ recDT r = iter start step (T - 1) := by
  obtain ⟨r, hr, hdt, -⟩ := tb.row (T - 1) (m - 1) (Nat.sub_lt hT Nat.one_pos) (Nat.sub_lt hm Nat.one_pos)
  have hpos : T * m - 1 = (T - 1) * m + (m - 1) := by
    rw [Nat.sub_one_mul, ← Nat.add_sub_assoc hm, Nat.sub_add_cancel (Nat.le_mul_of_pos_left m hT)]
  exact ⟨r, by rw [List.getLast?_eq_getElem?, tb.len, hpos, hr], hdt⟩

theorem Table.getD (tb : Table rs T m start step cellsOf) {i j : Nat} (hi : i < T) (hj : j < m) :
    recCells (rs.getD (i * m + j) []) = cellsOf i j := by
  obtain ⟨r, hr, -, hc⟩ := tb.row i j hi hj
  rw [List.getD_eq_getElem?_getD, hr]
  exact hc

/-! ### the one3d and height/pressure record reader -/

/-- the records of the first step's layers carry the start, the first one behind them does not -/
theorem countLayers_spec (tb : Table rs T (L * stride) start step cellsOf) (hT : 2 ≤ T) (hst : 1 ≤ stride) (hL : 1 ≤ L)
    (fuel : Nat) (hf : L ≤ fuel) : countLayers stride start rs fuel 1 = some L := by
  obtain ⟨L, rfl⟩ := Nat.exists_eq_add_of_le' hL
  refine Nat.fuel_loop (loop := countLayers stride start rs) (x := fun i => i + 1) (res := fun _ => some (L + 1))
    (d := L) (e := 1) ?_ ?_ fuel hf
  · intro fuel i hi ih
    obtain ⟨r, hr, hdt, -⟩ := tb.row0 (Nat.lt_of_succ_lt hT)
      (Nat.mul_lt_mul_of_lt_of_le (Nat.succ_lt_succ hi) (Nat.le_refl _) hst)
    rw [countLayers, hr]
    simp only [hdt, timediff_self, ne_eq, not_true_eq_false, if_false]
    exact ih
  · intro fuel
    obtain ⟨r, hr, hdt⟩ := tb.row1 hT (Nat.mul_pos hL hst)
    rw [countLayers, hr]
    simp only [hdt, tb.axis.diff_one]
    rw [if_pos (Int.ne_of_gt tb.axis.st.1)]

theorem recIndex_iter (ax : Axis start step) (j k hp : Nat) :
    recIndex start step L stride (iter start step j) k hp = ((j * (L * stride) + ((k - 1) * stride + hp) : Nat) : Int) := by
  unfold recIndex nsteps
  rw [ax.tdiv (ax.diff j)]
  push_cast
  ring

/-- every seek inside the table succeeds, the first one behind it falls off the file -/
theorem walk_spec (ax : Axis start step) (kseek hp : Nat) (chk : Bool) (hk : (kseek - 1) * stride + hp < L * stride)
    (hT : 1 ≤ T) (fuel : Nat) (hf : T ≤ fuel) :
    walk start step L stride (T * (L * stride)) kseek hp chk fuel (iter start step 1) = some (iter start step T) := by
  obtain ⟨T, rfl⟩ := Nat.exists_eq_add_of_le' hT
  refine Nat.fuel_loop (loop := walk start step L stride ((T + 1) * (L * stride)) kseek hp chk)
    (x := fun i => iter start step (i + 1)) (res := fun _ => some (iter start step (T + 1))) (d := T) (e := 1) ?_ ?_ fuel hf
  · intro fuel i hi ih
    have hnn : ¬ (timediff start (iter start step (i + 1)) < 0) := fun h => (ax.in_range (ax.diff (i + 1)) (Nat.le_refl _)) (Or.inr h)
    have hin : (i + 1) * (L * stride) + ((kseek - 1) * stride + hp) < (T + 1) * (L * stride) :=
      Nat.mul_add_lt (Nat.succ_lt_succ hi) hk
    rw [walk]
    simp only [recIndex_iter ax, hnn, and_false, false_or, Int.natCast_nonneg, Int.ofNat_lt.mpr hin, and_self,
      not_true_eq_false, if_false]
    exact ih
  · intro fuel
    rw [walk]
    simp only [recIndex_iter ax]
    rw [if_pos (Or.inr fun h => absurd (Int.ofNat_lt.mp h.2) (Nat.not_lt.mpr (Nat.le_add_right _ _)))]

theorem fetch_spec (tb : Table rs T (L * stride) start step cellsOf) {fin : DT}
    (hfin : timediff start fin = ((T - 1 : Nat) : Int) * step) {i ki v : Nat} (hi : i < T) (hk : ki < L) (hv : v < stride) :
    fetch start fin step L stride rs (iter start step i) (ki + 1) v = some (cellsOf i (ki * stride + v)) := by
  obtain ⟨r, hr, -, hc⟩ := tb.row i (ki * stride + v) hi (Nat.mul_add_lt hk hv)
  unfold fetch
  rw [if_neg (tb.axis.in_range hfin (Nat.le_sub_one_of_lt hi))]
  simp only [recIndex_iter tb.axis, Nat.add_sub_cancel]
  rw [if_neg (Int.not_lt.mpr (Int.natCast_nonneg _)), Int.toNat_natCast, hr, Option.map_some, hc]

theorem fetch_all (tb : Table rs T (L * stride) start step cellsOf) {fin : DT}
    (hfin : timediff start fin = ((T - 1 : Nat) : Int) * step) {v : Nat} (hv : v < stride) :
    (List.flatMap (fun dt => List.map (fun ki => (dt, ki + 1)) (List.range L))
        (List.map (iter start step) (List.range T))).mapM
      (fun p => fetch start fin step L stride rs p.1 p.2 v) =
    some ((List.range T).flatMap (fun i => (List.range L).map (fun k => cellsOf i (k * stride + v)))) := by
  have e1 : (List.flatMap (fun dt => List.map (fun ki => (dt, ki + 1)) (List.range L))
        (List.map (iter start step) (List.range T))) =
      ((List.range T).flatMap (fun i => (List.range L).map (fun k => (i, k)))).map
        (fun p : Nat × Nat => (iter start step p.1, p.2 + 1)) := by
    simp only [List.flatMap_map, List.map_flatMap, List.map_map, Function.comp_def]
  rw [e1, List.mapM_map, List.mapM_some (fun p : Nat × Nat => cellsOf p.1 (p.2 * stride + v))]
  · simp only [List.map_flatMap, List.map_map, Function.comp_def]
  · intro p hpm
    simp only [List.mem_flatMap, List.mem_range, List.mem_map] at hpm
    obtain ⟨i, hi, k, hk, rfl⟩ := hpm
    exact fetch_spec tb hfin hi hk hv

/-- the content the record reader presents for a table of records on a regular time axis -/
def tableView (T L stride : Nat) (dt : Nat → DT) (cellsOf : Nat → Nat → List Word) : RView :=
  { nt := T, nz := L, times := (List.range T).map dt,
    vars := (List.range stride).map (fun v =>
      (List.range T).flatMap (fun i => (List.range L).map (fun k => cellsOf i (k * stride + v)))) }

theorem readRows_spec {hp : Bool} (tb : Table rs T (L * (if hp then 2 else 1)) start step cellsOf)
    (heven : hp = true → step % 2 = 0) (hT : 2 ≤ T) (hL : 1 ≤ L) :
    readRows hp rs = some (tableView T L (if hp then 2 else 1) (iter start step) cellsOf) := by
  generalize hstr : (if hp then 2 else 1 : Nat) = stride at tb ⊢
  have hst : 1 ≤ stride := by
    subst hstr
    cases hp <;> decide
  have ax := tb.axis
  have hlen := tb.len
  have hT1 : 1 ≤ T := Nat.le_of_succ_le hT
  have hLs : L ≤ L * stride := Nat.le_mul_of_pos_right _ hst
  have hTf : T ≤ T * (L * stride) := Nat.le_mul_of_pos_right _ (Nat.mul_pos hL hst)
  have hLf : L * stride ≤ T * (L * stride) := Nat.le_mul_of_pos_left _ hT1
  obtain ⟨r0, tl, rfl, hstart⟩ := tb.eq_cons hT1 (Nat.mul_pos hL hst)
  obtain ⟨r1, hr1, hdt1⟩ := tb.row1 hT (Nat.mul_pos hL hst)
  have hcount := countLayers_spec tb hT hst hL (T * (L * stride)) (Nat.le_trans hLs hLf)
  have hkseek : ((if hp = true then L else 1) - 1) * stride + (if hp = true then 1 else 0) < L * stride := by
    cases hp
    · exact Nat.mul_add_lt (i := 0) hL hst
    · subst hstr
      exact Nat.mul_add_lt (Nat.sub_lt hL Nat.one_pos) Nat.one_lt_two
  have hwalk := walk_spec (T := T) (L := L) (stride := stride) ax
    (if hp then L else 1) (if hp then 1 else 0) hp hkseek hT1 (T * (L * stride)) hTf
  obtain ⟨fin, hfin, hfd, hon, hon'⟩ := ax.back T hT1
  have hcnt := (ax.count hT1 hfd).1
  have htr := ax.trange_iter T (T * (L * stride) + 1 + T) (Nat.lt_add_of_pos_left (Nat.succ_pos _))
  have hnneg : ¬ ((T : Int) < 0) := Int.not_lt.mpr (Int.natCast_nonneg T)
  have heod : ¬ (hp = true ∧ step % 2 = 1) := fun h => Int.zero_ne_one ((heven h.1).symm.trans h.2)
  unfold readRows
  -- the end of day stays 2400, and either form of the stop is the point `T` steps on
  simp only [hstr, hstart, hlen, hcount, hr1, hdt1, ax.diff_one, hwalk, hfin, hcnt, hnneg, if_false, heod, hon, hon',
    ite_self, ax.timeadd_zero T, ax.timeadd_zero_start, Int.toNat_natCast]
  rw [htr]
  simp only [List.length_map, List.length_range, gt_iff_lt, lt_self_iff_false, if_false]
  rw [List.mapM_some (fun v => (List.range T).flatMap (fun i => (List.range L).map (fun k => cellsOf i (k * stride + v))))
    (fun v hv => fetch_all tb hfd (List.mem_range.mp hv))]
  simp only [tableView, List.map_map, Option.some.injEq, RView.mk.injEq, true_and]
  -- `timerange()` reaches every counted step: nothing is padded
  apply List.map_congr_left
  intro v _
  have hl : ((List.range T).flatMap (fun i => (List.range L).map (fun k => cellsOf i (k * stride + v)))).length = T * L := by
    rw [List.length_flatMap_uniform (n := L) (fun i _ => by rw [List.length_map, List.length_range]), List.length_range]
  simp only [Function.comp, hl, Nat.sub_self, List.replicate_zero, List.append_nil]

/-! ### the temperature record reader -/

theorem firstDiff_spec (tb : Table rs T m start step cellsOf) (hT : 2 ≤ T) (hm : 1 ≤ m) (fuel : Nat) (hf : m ≤ fuel) :
    firstDiff start rs fuel 1 = some m := by
  obtain ⟨m, rfl⟩ := Nat.exists_eq_add_of_le' hm
  refine Nat.fuel_loop (loop := firstDiff start rs) (x := fun i => i + 1) (res := fun _ => some (m + 1))
    (d := m) (e := 1) ?_ ?_ fuel hf
  · intro fuel i hi ih
    obtain ⟨r, hr, hdt, -⟩ := tb.row0 (Nat.lt_of_succ_lt hT) (Nat.succ_lt_succ hi)
    rw [firstDiff, hr]
    simp only [hdt, ne_eq, not_true_eq_false, if_false]
    exact ih
  · intro fuel
    obtain ⟨r, hr, hdt⟩ := tb.row1 hT hm
    rw [firstDiff, hr]
    have hne : iter start step 1 ≠ start := fun h => Nat.one_ne_zero (tb.axis.inj (j := 0) h)
    simp only [hdt]
    rw [if_pos hne]

/-- what the temperature record reader presents for a table of `T` steps of `m` records -/
def tempView (T m : Nat) (dt : Nat → DT) (cellsOf : Nat → Nat → List Word) : RView :=
  { nt := T, nz := m - 1, times := (List.range T).map dt,
    vars := [(List.range T).map (fun i => cellsOf i 0),
             (List.range T).flatMap (fun i => (List.range (m - 1)).map (fun k => cellsOf i (1 + k)))] }

theorem readTempRows_spec (tb : Table rs T m start step cellsOf) (heven : step % 2 = 0) (hT : 2 ≤ T) (hm : 2 ≤ m) :
    readTempRows rs = some (tempView T m (iter start step) cellsOf) := by
  have ax := tb.axis
  have hlen := tb.len
  have hT1 : 1 ≤ T := Nat.le_of_succ_le hT
  have hm1 : 1 ≤ m := Nat.le_of_succ_le hm
  obtain ⟨r0, tl, rfl, hstart⟩ := tb.eq_cons hT1 hm1
  obtain ⟨r1, hr1, hdt1⟩ := tb.row1 hT hm1
  obtain ⟨rl, hlast, hdtl⟩ := tb.last hT1 hm1
  have hfirst := firstDiff_spec tb hT hm1 (T * m) (Nat.le_mul_of_pos_left _ hT1)
  have hcnt := (ax.count hT1 (ax.diff (T - 1))).2
  have htr := ax.trange_last T (T * m + 1 + T) hT1 (Nat.lt_add_of_pos_left (Nat.succ_pos _))
  unfold readTempRows
  simp only [hstart, hlen, hfirst, hr1, hlast, hdt1, ax.diff_one, hdtl, hcnt]
  have hnneg : ¬ ((T : Int) < 0) := Int.not_lt.mpr (Int.natCast_nonneg T)
  have hodd : ¬ (step % 2 = 1) := fun h => Int.zero_ne_one (heven.symm.trans h)
  have hdiv : T * m / m = T := Nat.mul_div_cancel _ hm1
  have hmod : T * m % m = 0 := Nat.mul_mod_left _ _
  simp only [hnneg, if_false, hodd, hmod, hdiv, ne_eq, not_true_eq_false, gt_iff_lt, lt_self_iff_false, or_self,
    htr, Int.toNat_natCast, Nat.sub_self, List.replicate_zero, List.append_nil, Nat.zero_mul,
    tempView, Option.some.injEq, RView.mk.injEq, true_and, List.cons.injEq, and_true]
  refine ⟨?_, ?_⟩
  · apply List.map_congr_left
    intro i hi
    exact tb.getD (j := 0) (List.mem_range.mp hi) hm1
  · apply List.flatMap_congr_left
    intro i hi
    apply List.map_congr_left
    intro k hk
    rw [Nat.add_assoc]
    exact tb.getD (List.mem_range.mp hi) (Nat.add_lt_of_lt_sub' (List.mem_range.mp hk))

end

end SlabRead
