import PncProofs.StackLemmas
import PncProofs.SliceLemmas

/-!
# C01 — the two operations whose file-level statement needs the array theorems of C02 / C04: `sliceDimensions` and `stack`

(The other operations are in PncProofs/C01.lean.)
-/
namespace Props.C01
open Arr PFile

/-- same-named variables have the same dimension tuple in every file -/
def Conform (fs : List File) : Prop :=
  ∀ g ∈ fs, ∀ h ∈ fs, ∀ v ∈ g.vars, ∀ w, h.var? v.name = some w → w.dims = v.dims

/-- **C01 (stack).** Stacking well-formed files that agree on the dimension tuples of same-named variables gives a
well-formed file: every variable's dimensions exist in the result and its data have exactly the shape the result's
dimension lengths give — the stack dimension with the summed length, every other dimension with the common length.
(Variables that carry the stack dimension twice are outside: the model answers `unspec`.) -/
theorem stack_wf (f0 : File) (rest : List File) (sd : String) (r : File)
    (hwf : ∀ g ∈ f0 :: rest, WF g) (hn : DimsNodup f0) (hc : Conform (f0 :: rest))
    (hs : stackFiles (f0 :: rest) sd = .ok r) : WF r := by
  obtain ⟨vars, hv, hr⟩ := stack_ok hs
  intro v hvmem
  rw [hr] at hvmem
  obtain ⟨v0, hv0, hsv⟩ := List.mem_of_mapM_ok hv hvmem
  obtain ⟨g, hg, hv0g⟩ := List.mem_flatMap.mp ((firstByName_mem _ _ _ hv0).resolve_left List.not_mem_nil)
  have hwg := hwf g hg v0 hv0g
  have key : ∀ k ∈ v0.dims, k ≠ sd → (r.dim? k).isSome = true ∧ ∀ h ∈ f0 :: rest, r.dimLen k = h.dimLen k :=
    fun k hk hne => stack_dim_other hn hs hg hne (hwg.1 k hk)
  obtain ⟨hnm, e⟩ | ⟨hm, hone, ws, hws, rfl⟩ := stackVar_ok hsv
  · rw [e]
    have hne : ∀ k ∈ v0.dims, k ≠ sd := fun k hk e => hnm (e ▸ hk)
    exact varWF_of g.dimLen (fun k hk => ⟨(key k hk (hne k hk)).1, (key k hk (hne k hk)).2 g hg⟩) hwg.2
  · obtain ⟨hrsd, hrlen⟩ := stack_dim_sd hs
    refine varWF_of r.dimLen (fun k hk => ?_) ?_
    · by_cases hks : k = sd
      · exact ⟨hks ▸ hrsd, rfl⟩
      · exact ⟨(key k hk hks).1, rfl⟩
    · -- shape of the concatenation: every piece has the lengths of the result off the axis of `sd`
      obtain ⟨parts, h1, h2, h3⟩ := stackVar_parts v0.name sd (f0 :: rest) ws hws
      have hone := List.filter_length_eq_one_of_mem (Nat.le_of_not_gt hone) hm
      have hparts : ∀ p ∈ parts, hasShape ((v0.dims.map r.dimLen).set (v0.dims.idxOf sd) p.2) p.1 = true := by
        intro p hp
        obtain ⟨h, hh, w, hw, rfl⟩ := h3 p hp
        rw [← List.map_set_idxOf sd h.dimLen r.dimLen v0.dims (fun k hk hne => ((key k hk hne).2 h hh).symm) hone,
          ← hc g hg h hh v0 hv0g w hw]
        exact (hwf h hh w (File.var?_mem hw).1).2
      have hne : parts ≠ [] := fun e => List.cons_ne_nil _ _ (h2.symm.trans (congrArg (List.map (·.2)) e))
      have hres := concatAll_shape (v0.dims.idxOf sd) (v0.dims.map r.dimLen)
        (List.idxOf_map_getD r.dimLen sd v0.dims 0 hm).1 parts hne hparts
      rw [h1, h2, ← List.sum_eq_foldl_nat, ← hrlen,
        ← List.map_set_idxOf sd r.dimLen r.dimLen v0.dims (fun _ _ _ => rfl) hone] at hres
      exact hres

/-- non-vacuity of `stack_wf`: two conforming files with a shared dimension and a variable without the stack dimension -/
example :
    let a : File := ⟨[⟨"t", 1, true⟩, ⟨"x", 2, false⟩],
      [⟨"A", ["t", "x"], .node [.node [.leaf (some 1), .leaf (some 2)]], [], false, false⟩,
       ⟨"x", ["x"], .node [.leaf (some 10), .leaf (some 20)], [], false, false⟩], []⟩
    let b : File := ⟨[⟨"t", 2, true⟩, ⟨"x", 2, false⟩],
      [⟨"A", ["t", "x"], .node [.node [.leaf (some 3), .leaf none], .node [.leaf (some 5), .leaf (some 6)]], [], false, false⟩,
       ⟨"x", ["x"], .node [.leaf (some 10), .leaf (some 20)], [], false, false⟩], []⟩
    DimsNodup a ∧
    (match stackFiles [a, b] "t" with
      | .ok r => (r.dims.map (fun d => (d.name, d.len)), (r.var? "A").map (fun v => (v.dims, flatten v.data)))
      | .error _ => ([], none)) =
      ([("x", 2), ("t", 3)], some (["t", "x"], [some 1, some 2, some 3, none, some 5, some 6])) := by
  refine ⟨?_, ?_⟩
  · unfold DimsNodup
    decide +kernel
  · decide +kernel

/-- **C01 (sliceDimensions)** — `slice_wf` with the side condition only where it is needed: the name of the new dimension
must be free when two or more index lists are given -/
theorem slice_wf' (f r : File) (sels : List (String × PSel)) (newdim : String) (hwf : WF f)
    (hnew : zippedSels sels = true → f.dim? newdim = none) (hs : sliceFile f sels newdim = .ok r) : WF r := by
  obtain ⟨idx, L, vars, hidx, hvars, rfl⟩ := sliceFile_ok hs
  intro v' hv'
  obtain ⟨v, hvm, hsv⟩ := List.mem_of_mapM_ok hvars hv'
  obtain ⟨hnz, d, hd, rfl⟩ | ⟨_, rfl⟩ := sliceVar_ok hsv
  · obtain ⟨k, hk⟩ := List.exists_mem_of_length_pos (Nat.lt_of_lt_of_le Nat.zero_lt_two hnz)
    obtain ⟨hkm, hkz⟩ := List.mem_filter.mp hk
    have hzip : zippedSels sels = true := by
      unfold isZipSel at hkz
      split at hkz
      · exact (Bool.and_eq_true _ _ ▸ hkz).1
      · cases hkz
    rw [hzip] at hd hkz ⊢
    exact sliceVar_zip_wf vars (hwf v hvm) hidx (hnew hzip) ⟨k, hkm, hkz⟩ hd
  · exact sliceVar_orth_wf _ L newdim vars (hwf v hvm) hidx

/-- **C01 (sliceDimensions).** Slicing a well-formed file — integers, slices with any bounds and steps, index lists,
and two or more index lists acting together (pointwise, on the new dimension) — gives a well-formed file: every
variable's dimensions exist in the result and its data have exactly the lengths of those dimensions. -/
theorem slice_wf (f r : File) (sels : List (String × PSel)) (newdim : String) (hwf : WF f)
    (hnew : f.dim? newdim = none) (hs : sliceFile f sels newdim = .ok r) : WF r :=
  slice_wf' f r sels newdim hwf (fun _ => hnew) hs

/-- non-vacuity of `slice_wf`: two index lists acting together on `A(t, y, x)` (the new dimension replaces `y` and `x`)
while `B(y)` is selected orthogonally -/
example :
    let f : File := ⟨[⟨"t", 1, false⟩, ⟨"y", 2, false⟩, ⟨"x", 2, false⟩],
      [⟨"A", ["t", "y", "x"], .node [.node [.node [.leaf (some 1), .leaf (some 2)], .node [.leaf (some 3), .leaf (some 4)]]], [], false, false⟩,
       ⟨"B", ["y"], .node [.leaf (some 7), .leaf (some 8)], [], false, false⟩], []⟩
    let r := sliceFile f [("y", .list [1, 0, 1]), ("x", .list [0, 0, 1])] "POINTS"
    f.dim? "POINTS" = none ∧
    (match r with | .ok r => r.dims.map (fun d => (d.name, d.len)) | .error _ => []) =
      [("t", 1), ("y", 3), ("x", 3), ("POINTS", 3)] ∧
    (match r with | .ok r => (r.var? "A").map (fun v => (v.dims, flatten v.data)) | .error _ => none) =
      some (["t", "POINTS"], [some 3, some 1, some 4]) ∧
    (match r with | .ok r => (r.var? "B").map (fun v => (v.dims, flatten v.data)) | .error _ => none) =
      some (["y"], [some 8, some 7, some 8]) := by
  decide +kernel

end Props.C01
