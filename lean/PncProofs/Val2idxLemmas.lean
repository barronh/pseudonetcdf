import PncModel.Val2idx
import PncProofs.ListLemmas
import Mathlib.Data.Rat.Floor

/-! `fpos` on an ascending list: the search stops at a segment (`fpos_seg`, no order needed), and comparing `fpos xs x`
with `k` is comparing `x` with `xs[k]` (`fpos_cmp_node`); range, nodes, the cell and the nearest node follow. -/

namespace Val2idx

def Asc : List ℚ → Prop
  | a :: b :: rest => a < b ∧ Asc (b :: rest)
  | _ => True

theorem isAsc_iff : ∀ l : List ℚ, isAsc l = true ↔ Asc l
  | [] => iff_of_true rfl trivial
  | [_] => iff_of_true rfl trivial
  | a :: b :: rest => by rw [isAsc, Asc, Bool.and_eq_true, decide_eq_true_iff, isAsc_iff (b :: rest)]

theorem asc_iff_pairwise (l : List ℚ) : Asc l ↔ l.Pairwise (· < ·) :=
  List.pairwise_of_rec trivial (fun _ => trivial) (fun _ _ _ => Iff.rfl) l

theorem Asc.getElem_lt {xs : List ℚ} (h : Asc xs) {i j : ℕ} (hj : j < xs.length) (hij : i < j) :
    xs[i]'(hij.trans hj) < xs[j] :=
  List.pairwise_iff_getElem.mp ((asc_iff_pairwise xs).mp h) i j (hij.trans hj) hj hij

theorem Asc.getElem_le {xs : List ℚ} (h : Asc xs) {i j : ℕ} (hj : j < xs.length) (hij : i ≤ j) :
    xs[i]'(lt_of_le_of_lt hij hj) ≤ xs[j] := by
  rcases hij.eq_or_lt with rfl | hlt
  · exact le_rfl
  · exact (h.getElem_lt hj hlt).le

theorem Asc.head_le_last : ∀ (l : List ℚ) (hne : l ≠ []), Asc l → l.head hne ≤ l.getLast hne := by
  intro l hne h
  rw [List.head_eq_getElem, List.getLast_eq_getElem]
  exact h.getElem_le _ (Nat.zero_le _)

/-- No monotonicity needed: this is what the segment search computes. `i < xs.length` is bound as
well so that `xs[i]` needs no arithmetic to elaborate. -/
theorem fpos_seg : ∀ (xs : List ℚ) (x : ℚ) (hne : xs ≠ []), 2 ≤ xs.length →
    xs.head hne ≤ x → x ≤ xs.getLast hne →
    ∃ (i : ℕ) (_ : i < xs.length) (_ : i + 1 < xs.length), xs[i] ≤ x ∧ x ≤ xs[i + 1] ∧
      fpos xs x = i + (x - xs[i]) / (xs[i + 1] - xs[i])
  | [] => fun _ h => absurd rfl h
  | [_] => fun _ _ h => absurd h (Nat.not_succ_le_self 1)
  | [x0, x1] => fun x _ _ h0 h1 => by
    refine ⟨0, Nat.succ_pos 1, Nat.lt_succ_self 1, h0, h1, ?_⟩
    rw [Nat.cast_zero, zero_add]
    rfl
  | x0 :: x1 :: x2 :: rest => fun x _ _ h0 h1 => by
    rw [fpos]
    split_ifs with c
    · refine ⟨0, Nat.succ_pos _, Nat.succ_lt_succ (Nat.succ_pos _), h0, c.le, ?_⟩
      rw [Nat.cast_zero, zero_add]
      rfl
    · obtain ⟨i, hi0, hi, ha, hb, e⟩ := fpos_seg (x1 :: x2 :: rest) x (List.cons_ne_nil _ _)
        (Nat.le_add_left _ _) (not_lt.mp c) h1
      refine ⟨i + 1, Nat.succ_lt_succ hi0, Nat.succ_lt_succ hi, ha, hb, ?_⟩
      rw [e, Nat.cast_succ, add_comm (i : ℚ) 1, add_assoc]
      rfl

theorem rel_nonneg_le_one {a b x : ℚ} (hab : a < b) (ha : a ≤ x) (hb : x ≤ b) :
    0 ≤ (x - a) / (b - a) ∧ (x - a) / (b - a) ≤ 1 :=
  ⟨div_nonneg (sub_nonneg.mpr ha) (sub_pos.mpr hab).le,
    div_le_one_of_le₀ (sub_le_sub_right hb a) (sub_pos.mpr hab).le⟩

theorem fpos_cmp_node (xs : List ℚ) (x : ℚ) (hne : xs ≠ []) (hlen : 2 ≤ xs.length) (hs : Asc xs)
    (h0 : xs.head hne ≤ x) (h1 : x ≤ xs.getLast hne) (k : ℕ) (hk : k < xs.length) :
    ((k : ℚ) ≤ fpos xs x ↔ xs[k] ≤ x) ∧ (fpos xs x ≤ k ↔ x ≤ xs[k]) := by
  -- `x` lies in segment `i`; `k` is compared with `i + 1` for the first equivalence, with `i` for the second, and
  -- only the middle case uses the segment's own linear map
  obtain ⟨i, hi0, hi, ha, hb, e⟩ := fpos_seg xs x hne hlen h0 h1
  have hab := hs.getElem_lt hi (Nat.lt_succ_self i)
  obtain ⟨f0, f1⟩ := rel_nonneg_le_one hab ha hb
  have hle : (i : ℚ) + (x - xs[i]) / (xs[i + 1] - xs[i]) ≤ (i + 1 : ℕ) := by
    rw [Nat.cast_succ]
    exact add_le_add le_rfl f1
  rw [e]
  constructor
  · rcases Nat.lt_trichotomy k (i + 1) with hlt | rfl | hgt
    · exact iff_of_true (le_add_of_le_of_nonneg (Nat.cast_le.mpr (Nat.lt_succ_iff.mp hlt)) f0)
        ((hs.getElem_le hi0 (Nat.lt_succ_iff.mp hlt)).trans ha)
    · rw [Nat.cast_succ, add_le_add_iff_left, one_le_div (sub_pos.mpr hab), sub_le_sub_iff_right]
    · exact iff_of_false (not_le.mpr (hle.trans_lt (Nat.cast_lt.mpr hgt)))
        (not_le.mpr (hb.trans_lt (hs.getElem_lt hk hgt)))
  · rcases Nat.lt_trichotomy k i with hlt | rfl | hgt
    · exact iff_of_false (not_le.mpr (lt_add_of_lt_of_nonneg (Nat.cast_lt.mpr hlt) f0))
        (not_le.mpr ((hs.getElem_lt hi0 hlt).trans_le ha))
    · rw [add_le_iff_nonpos_right, div_le_iff₀ (sub_pos.mpr hab), zero_mul, sub_nonpos]
    · exact iff_of_true (hle.trans (Nat.cast_le.mpr hgt)) (hb.trans (hs.getElem_le hk (Nat.succ_le_of_lt hgt)))

/-- **range**: inside the coordinate range the fractional position is within [0, n-1] -/
theorem fpos_range : ∀ (xs : List ℚ) (x : ℚ) (hne : xs ≠ []), 2 ≤ xs.length → Asc xs →
    xs.head hne ≤ x → x ≤ xs.getLast hne → 0 ≤ fpos xs x ∧ fpos xs x ≤ (xs.length - 1 : ℕ) := by
  intro xs x hne hlen hs h0 h1
  constructor
  · have := (fpos_cmp_node xs x hne hlen hs h0 h1 0 (by omega)).1.mpr (by rwa [← List.head_eq_getElem])
    rwa [Nat.cast_zero] at this
  · exact (fpos_cmp_node xs x hne hlen hs h0 h1 (xs.length - 1) (by omega)).2.mpr
      (by rwa [← List.getLast_eq_getElem])

theorem fpos_at_node (xs : List ℚ) (k : ℕ) (hk : k < xs.length) (hlen : 2 ≤ xs.length) (hs : Asc xs) :
    fpos xs (xs[k]) = k := by
  have hne : xs ≠ [] := List.ne_nil_of_length_pos (by omega)
  have h0 : xs.head hne ≤ xs[k] := by
    rw [List.head_eq_getElem]
    exact hs.getElem_le hk (Nat.zero_le k)
  have h1 : xs[k] ≤ xs.getLast hne := by
    rw [List.getLast_eq_getElem]
    exact hs.getElem_le _ (Nat.le_pred_of_lt hk)
  obtain ⟨hlo, hhi⟩ := fpos_cmp_node xs _ hne hlen hs h0 h1 k hk
  exact le_antisymm (hhi.mpr le_rfl) (hlo.mpr le_rfl)

theorem cell_of_between (es : List ℚ) (x : ℚ) (hne : es ≠ []) (hlen : 2 ≤ es.length) (hs : Asc es)
    (h0 : es.head hne ≤ x) (h1 : x ≤ es.getLast hne) (k : ℕ) (hk : k + 1 < es.length)
    (hlo : (k : ℚ) ≤ fpos es x) (hhi : fpos es x ≤ k + 1) :
    es[k]'(Nat.lt_of_succ_lt hk) ≤ x ∧ x ≤ es[k + 1] :=
  ⟨(fpos_cmp_node es x hne hlen hs h0 h1 k (Nat.lt_of_succ_lt hk)).1.mp hlo,
    (fpos_cmp_node es x hne hlen hs h0 h1 (k + 1) hk).2.mp (by rwa [Nat.cast_succ])⟩

theorem abs_left_le {a b x y : ℚ} (ha : a ≤ x) (hy : y ≤ a ∨ b ≤ y) (h : x - a ≤ b - x) :
    |a - x| ≤ |y - x| := by
  rw [abs_sub_comm, abs_of_nonneg (sub_nonneg.mpr ha)]
  rcases hy with hy | hy
  · exact (sub_le_sub_left hy x).trans ((le_abs_self _).trans_eq (abs_sub_comm x y))
  · exact h.trans ((sub_le_sub_right hy x).trans (le_abs_self _))

theorem abs_right_le {a b x y : ℚ} (hb : x ≤ b) (hy : y ≤ a ∨ b ≤ y) (h : b - x ≤ x - a) :
    |b - x| ≤ |y - x| := by
  rw [abs_of_nonneg (sub_nonneg.mpr hb)]
  rcases hy with hy | hy
  · exact h.trans ((sub_le_sub_left hy x).trans ((le_abs_self _).trans_eq (abs_sub_comm x y)))
  · exact (sub_le_sub_right hy x).trans (le_abs_self _)

theorem int_near (r : ℤ) (i : ℕ) (f : ℚ) (f0 : 0 ≤ f) (f1 : f ≤ 1) (hc : |(r : ℚ) - (i + f)| ≤ 1 / 2) :
    r = i ∧ f ≤ 1 / 2 ∨ r = i + 1 ∧ 1 / 2 ≤ f := by
  obtain ⟨c1, c2⟩ := abs_sub_le_iff.mp hc
  have h1 : (((i : ℤ) - 1 : ℤ) : ℚ) < r := by push_cast; linarith only [c2, f0]
  have h2 : (r : ℚ) < (((i : ℤ) + 2 : ℤ) : ℚ) := by push_cast; linarith only [c1, f1]
  rw [Int.cast_lt] at h1 h2
  rcases (by omega : r = i ∨ r = i + 1) with rfl | rfl
  · rw [Int.cast_natCast, add_sub_cancel_left] at c2
    exact Or.inl ⟨rfl, c2⟩
  · rw [Int.cast_add, Int.cast_natCast, Int.cast_one, add_sub_add_left_eq_sub, sub_le_comm, sub_half] at c1
    exact Or.inr ⟨rfl, c1⟩

theorem near_of_close (xs : List ℚ) (x : ℚ) (hne : xs ≠ []) (hlen : 2 ≤ xs.length) (hs : Asc xs)
    (h0 : xs.head hne ≤ x) (h1 : x ≤ xs.getLast hne) (r : ℤ) (hc : |(r : ℚ) - fpos xs x| ≤ 1 / 2) :
    ∃ (k : ℕ) (hk : k < xs.length), r = k ∧ ∀ (j : ℕ) (hj : j < xs.length), |xs[k] - x| ≤ |xs[j] - x| := by
  obtain ⟨i, hi0, hi, ha, hb, e⟩ := fpos_seg xs x hne hlen h0 h1
  have hab := hs.getElem_lt hi (Nat.lt_succ_self i)
  obtain ⟨f0, f1⟩ := rel_nonneg_le_one hab ha hb
  have hout : ∀ (j : ℕ) (hj : j < xs.length), xs[j] ≤ xs[i] ∨ xs[i + 1] ≤ xs[j] := fun j hj =>
    (Nat.lt_or_ge j (i + 1)).imp (fun h => hs.getElem_le hi0 (Nat.lt_succ_iff.mp h))
      (fun h => hs.getElem_le hj h)
  rw [e] at hc
  -- the rounded index is `i` or `i + 1`; every other node lies outside the segment (`hout`)
  rcases int_near r i _ f0 f1 hc with ⟨rfl, hf⟩ | ⟨rfl, hf⟩
  · refine ⟨i, hi0, rfl, fun j hj => abs_left_le ha (hout j hj) ?_⟩
    rw [div_le_iff₀ (sub_pos.mpr hab)] at hf
    linarith only [hf]
  · refine ⟨i + 1, hi, rfl, fun j hj => abs_right_le hb (hout j hj) ?_⟩
    rw [le_div_iff₀ (sub_pos.mpr hab)] at hf
    linarith only [hf]

theorem interp_inside (xp : List ℚ) (desc : Bool) (left right : Fill) (x : ℚ)
    (h0 : xp.headD 0 ≤ x) (h1 : x ≤ xp.getLastD 0) :
    interp xp desc left right x
      = some (if desc then ((xp.length : ℕ) : ℚ) - 1 - fpos xp x else fpos xp x) := by
  unfold interp
  simp only [not_lt.mpr h0, not_lt.mpr h1, if_false]

theorem floorZ_eq (q : ℚ) : floorZ q = ⌊q⌋ := Rat.floor_def'.symm

theorem roundHalfEven_cases (q : ℚ) :
    roundHalfEven q = ⌊q⌋ ∧ q - ⌊q⌋ ≤ 1 / 2 ∨ roundHalfEven q = ⌊q⌋ + 1 ∧ 1 / 2 ≤ q - ⌊q⌋ := by
  unfold roundHalfEven
  simp only [floorZ_eq]
  split_ifs with a b c
  · exact Or.inl ⟨rfl, a.le⟩
  · exact Or.inr ⟨rfl, le_of_lt b⟩
  · exact Or.inl ⟨rfl, not_lt.mp b⟩
  · exact Or.inr ⟨rfl, not_lt.mp a⟩

theorem roundHalfEven_close (q : ℚ) : |((roundHalfEven q : ℤ) : ℚ) - q| ≤ 1 / 2 := by
  rcases roundHalfEven_cases q with ⟨e, h⟩ | ⟨e, h⟩
  · rw [e, abs_sub_comm, abs_of_nonneg (sub_nonneg.mpr (Int.floor_le q))]
    exact h
  · rw [e, Int.cast_add, Int.cast_one, abs_of_nonneg (sub_nonneg.mpr (Int.lt_floor_add_one q).le)]
    linarith only [h]

theorem trunc0_eq_floor (q : ℚ) (h : 0 ≤ q) : trunc0 q = ⌊q⌋ := by
  rw [trunc0, Rat.floor_def']
  exact Int.tdiv_eq_ediv_of_nonneg (Rat.num_nonneg.mpr h)

theorem trunc0_natCast (m : ℕ) : trunc0 (m : ℚ) = m := by
  rw [trunc0_eq_floor _ (Nat.cast_nonneg m), Int.floor_natCast]

/-- The `min` counts the last edge, `p = n`, to the last cell. -/
theorem trunc_min_cell (p : ℚ) (n : ℕ) (hn : 1 ≤ n) (p0 : 0 ≤ p) (p1 : p ≤ n) :
    ∃ k : ℕ, trunc0 (min p ((n : ℚ) - 1)) = k ∧ k < n ∧ (k : ℚ) ≤ p ∧ p ≤ k + 1 := by
  have hm : 0 ≤ min p ((n : ℚ) - 1) := le_min p0 (sub_nonneg.mpr (Nat.one_le_cast.mpr hn))
  obtain ⟨k, hk⟩ := Int.eq_ofNat_of_zero_le (Int.floor_nonneg.mpr hm)
  have hkm : (k : ℚ) ≤ min p ((n : ℚ) - 1) := by
    rw [← Int.cast_natCast, ← hk]
    exact Int.floor_le _
  refine ⟨k, (trunc0_eq_floor _ hm).trans hk, Nat.cast_lt.mp ((hkm.trans (min_le_right _ _)).trans_lt (sub_one_lt _)),
    hkm.trans (min_le_left _ _), ?_⟩
  rw [← Int.cast_natCast, ← hk]
  rcases le_total p ((n : ℚ) - 1) with h | h
  · rw [min_eq_left h]
    exact (Int.lt_floor_add_one p).le
  · -- clamped: the floor is `n - 1`
    rw [min_eq_right h, Int.floor_sub_one, Int.floor_natCast, Int.cast_sub, Int.cast_one, sub_add_cancel,
      Int.cast_natCast]
    exact p1

end Val2idx
