import PncModel.Camx.Uamiv
import PncProofs.CamxLemmas

/-!
The uamiv format (`PncModel/Camx/Uamiv.lean`): the reference decoder undoes the record construction; the memory-mapped
reader `decodeMM` accepts by the file size and the header counts alone, which settles whole files and prefixes once the
layout of the encoding shows that its strides land on the fields the encoder wrote; the stored date and the ×100 loop of
the time conversion.
-/

namespace Camx
open Words

/-! ### the reference decoder on the records of a well-formed content -/

def StepOK (nspec nz cells : Nat) (s : Step) : Prop :=
  s.data.length = nspec ∧ ∀ lays ∈ s.data, lays.length = nz ∧ ∀ d ∈ lays, d.length = cells

/-- a well-formed uamiv content: field widths and data shapes agree with the header counts; `steps` is
`StepOK f.species.length f.nz (f.nx * f.ny)` of every step -/
structure WF (f : Uamiv) : Prop where
  name : f.name.length = 10
  note : f.note.length = 60
  grid : f.grid.length = 15
  species : ∀ s ∈ f.species, s.length = 10
  steps : ∀ s ∈ f.steps, s.data.length = f.species.length ∧
    ∀ lays ∈ s.data, lays.length = f.nz ∧ ∀ d ∈ lays, d.length = f.nx * f.ny

theorem chars_length (l : List Nat) : (chars l).length = l.length := by simp [chars]

theorem map_wordChar_chars : ∀ (l : List Nat), (chars l).map wordChar = l
  | [] => rfl
  | c :: l => by
    have ih := map_wordChar_chars l
    unfold chars at ih ⊢
    simp only [List.map_cons, wordChar_charWord, ih]

theorem dataRec_length (spc : List Nat) (d : List Word) (hs : spc.length = 10) :
    (dataRec spc d).length = 11 + d.length := by
  rw [dataRec, List.length_cons, List.length_append, chars_length, hs, Nat.add_comm 10, Nat.add_assoc, Nat.add_comm]

theorem takeLayers_dataRec (spc : List Nat) (cells : Nat) (hs : spc.length = 10) (lays : List (List Word))
    (rest : List (List Word)) (h : ∀ d ∈ lays, d.length = cells) :
    takeLayers spc cells lays.length (lays.map (dataRec spc) ++ rest) = some (lays, rest) := by
  induction lays with
  | nil => rfl
  | cons d lays ih =>
    have hd : d.length = cells := h d List.mem_cons_self
    have ih := ih (fun x hx => h x (List.mem_cons_of_mem _ hx))
    have hc : (chars spc).length = 10 := by rw [chars_length, hs]
    simp only [List.length_cons, List.map_cons, List.cons_append, takeLayers]
    have hlen : (dataRec spc d).length = 11 + cells := by rw [dataRec_length spc d hs, hd]
    have hhead : (dataRec spc d).head? = some 1 := rfl
    have hname : ((dataRec spc d).drop 1).take 10 = chars spc := by
      simp only [dataRec, List.drop_succ_cons, List.drop_zero]
      exact List.take_left' hc
    have hdrop : (dataRec spc d).drop 11 = d := by
      simp only [dataRec, List.drop_succ_cons]
      exact List.drop_left' hc
    simp only [hlen, hhead, hname, and_self, if_true, ih, Option.map_some, hdrop]

theorem takeSpecies_speciesRecords (nz cells : Nat) (species : List (List Nat)) (data : List (List (List Word)))
    (rest : List (List Word)) (hl : data.length = species.length) (hs : ∀ s ∈ species, s.length = 10)
    (hd : ∀ lays ∈ data, lays.length = nz ∧ ∀ d ∈ lays, d.length = cells) :
    takeSpecies nz cells species ((List.zip species data).flatMap speciesRecords ++ rest) = some (data, rest) := by
  induction species generalizing data with
  | nil =>
    cases data with
    | nil => rfl
    | cons _ _ => exact absurd hl (Nat.succ_ne_zero _)
  | cons spc more ih =>
    cases data with
    | nil => exact absurd hl.symm (Nat.succ_ne_zero _)
    | cons lays data =>
      obtain ⟨hnz, hcells⟩ := hd lays List.mem_cons_self
      have ih := ih data (Nat.succ.inj hl) (fun s h => hs s (List.mem_cons_of_mem _ h))
        (fun l h => hd l (List.mem_cons_of_mem _ h))
      simp only [List.zip_cons_cons, List.flatMap_cons, List.append_assoc, takeSpecies, speciesRecords]
      have := takeLayers_dataRec spc cells (hs spc List.mem_cons_self) lays
        ((List.zip more data).flatMap speciesRecords ++ rest) hcells
      rw [hnz] at this
      rw [this]
      simp only [ih, Option.map_some]

theorem parseSteps_stepRecords (species : List (List Nat)) (nz cells : Nat) (hs : ∀ s ∈ species, s.length = 10)
    (steps : List Step) (fuel : Nat) (hf : steps.length ≤ fuel) (hd : ∀ s ∈ steps, StepOK species.length nz cells s) :
    parseSteps species nz cells fuel (steps.flatMap (stepRecords species)) = some steps := by
  induction steps generalizing fuel with
  | nil => cases fuel <;> rfl
  | cons s steps ih =>
    cases fuel with
    | zero => exact absurd hf (Nat.not_succ_le_zero _)
    | succ fuel =>
      obtain ⟨hl, hlay⟩ := hd s List.mem_cons_self
      have ih := ih fuel (Nat.le_of_succ_le_succ hf) (fun x hx => hd x (List.mem_cons_of_mem _ hx))
      simp only [List.flatMap_cons, stepRecords, List.cons_append, parseSteps]
      rw [takeSpecies_speciesRecords nz cells species s.data _ hl hs hlay]
      simp only [ih, Option.map_some]

theorem splitEvery_flatten_uniform {α} {k : Nat} {cs : List (List α)} (h : ∀ c ∈ cs, c.length = k) :
    splitEvery k cs.length cs.flatten = cs := by
  induction cs with
  | nil => rfl
  | cons c cs ih =>
    rw [List.length_cons, List.flatten_cons, splitEvery, List.take_left' (h c List.mem_cons_self),
      List.drop_left' (h c List.mem_cons_self), ih (fun x hx => h x (List.mem_cons_of_mem _ hx))]

theorem chars_uniform {species : List (List Nat)} (h : ∀ s ∈ species, s.length = 10) : ∀ c ∈ species.map chars, c.length = 10 :=
  List.forall_mem_map.mpr fun s hs => (chars_length s).trans (h s hs)

theorem splitEvery_species (species : List (List Nat)) (h : ∀ s ∈ species, s.length = 10) :
    (splitEvery 10 species.length ((species.map chars).flatten)).map (·.map wordChar) = species := by
  have := splitEvery_flatten_uniform (chars_uniform h)
  rw [List.length_map] at this
  rw [this, List.map_map]
  exact (List.map_congr_left (fun s _ => map_wordChar_chars s)).trans (List.map_id _)

theorem flatten_chars_length (species : List (List Nat)) (h : ∀ s ∈ species, s.length = 10) :
    ((species.map chars).flatten).length = 10 * species.length := by
  rw [List.length_flatten_uniform (chars_uniform h), List.length_map, Nat.mul_comm]

theorem steps_le_records (species : List (List Nat)) (steps : List Step) :
    steps.length ≤ (steps.flatMap (stepRecords species)).length := by
  induction steps with
  | nil => exact Nat.le_refl 0
  | cons s steps ih =>
    -- the records of a step begin with its time record
    have h1 : 1 ≤ (stepRecords species s).length := Nat.succ_pos _
    rw [List.flatMap_cons, List.length_append, List.length_cons, Nat.add_comm steps.length]
    exact Nat.add_le_add h1 ih

theorem hdr_getD (f : Uamiv) (h : WF f) (k : Nat) :
    (chars f.name ++ chars f.note ++ [f.itzon, f.nspec, f.ibdate, f.btime, f.iedate, f.etime]).getD (70 + k) 0 =
      [f.itzon, f.nspec, f.ibdate, f.btime, f.iedate, f.etime].getD k 0 := by
  have h70 : (chars f.name ++ chars f.note).length = 70 := by rw [List.length_append, chars_length, chars_length, h.name, h.note]
  rw [List.getD_eq_getElem?_getD, List.getD_eq_getElem?_getD,
    List.getElem?_append_right (by rw [h70]; exact Nat.le_add_right 70 k), h70, Nat.add_sub_cancel_left]

theorem decodeRecords_records (f : Uamiv) (h : WF f) : decodeRecords f.records = some f := by
  have hcn : (chars f.name).length = 10 := by rw [chars_length, h.name]
  have hcno : (chars f.note).length = 60 := by rw [chars_length, h.note]
  generalize hH : chars f.name ++ chars f.note ++ [f.itzon, f.nspec, f.ibdate, f.btime, f.iedate, f.etime] = H
  have hlen : H.length = 76 := by rw [← hH]; simp [hcn, hcno]
  have E70 : H.getD 70 0 = f.itzon := hH ▸ hdr_getD f h 0
  have E71 : H.getD 71 0 = f.nspec := hH ▸ hdr_getD f h 1
  have E72 : H.getD 72 0 = f.ibdate := hH ▸ hdr_getD f h 2
  have E73 : H.getD 73 0 = f.btime := hH ▸ hdr_getD f h 3
  have E74 : H.getD 74 0 = f.iedate := hH ▸ hdr_getD f h 4
  have E75 : H.getD 75 0 = f.etime := hH ▸ hdr_getD f h 5
  have htake : (H.take 10).map wordChar = f.name := by
    rw [← hH, List.append_assoc, List.take_left' hcn, map_wordChar_chars]
  have hnoteq : ((H.drop 10).take 60).map wordChar = f.note := by
    rw [← hH, List.append_assoc, List.drop_left' hcn, List.take_left' hcno, map_wordChar_chars]
  have hfl : ((f.species.map chars).flatten).length = 10 * f.nspec := flatten_chars_length f.species h.species
  have hse : (splitEvery 10 f.nspec ((f.species.map chars).flatten)).map (·.map wordChar) = f.species :=
    splitEvery_species f.species h.species
  have hps := parseSteps_stepRecords f.species f.nz (f.nx * f.ny) h.species f.steps _
    (steps_le_records f.species f.steps) h.steps
  unfold Uamiv.records decodeRecords
  simp only [List.cons_append, List.nil_append, hH]
  have hnx : f.grid.getD 7 0 = f.nx := rfl
  have hny : f.grid.getD 8 0 = f.ny := rfl
  have hnz : f.grid.getD 9 0 = f.nz := rfl
  simp only [hlen, h.grid, ne_eq, not_true_eq_false, or_self, if_false, E71, hnx, hny, hnz, hfl, hse, hps,
    E70, E72, E73, E74, E75, htake, hnoteq]

/-! ### the memory-mapped reader as a function of the file size -/

theorem hBlk_pos (w : List Word) : 0 < hBlk w := by
  unfold hBlk blockWords
  omega

theorem decodeMM_eq_ok (w : List Word) (extra : Nat) (v : MMView) :
    decodeMM w extra = .ok v ↔
      ∃ nt, 0 < nt ∧ 4 * w.length + extra = 4 * (hOff w + nt * hBlk w) ∧ v = mkView w nt := by
  have hB : 0 < 4 * hBlk w := Nat.mul_pos (Nat.succ_pos 3) (hBlk_pos w)
  have hO : 4 * hOff w = 412 + 40 * hNspec w := by rw [hOff, dataOffset, Nat.mul_add, ← Nat.mul_assoc]
  have e : ∀ nt, 4 * (hOff w + nt * hBlk w) = 4 * hOff w + 4 * hBlk w * nt := fun nt => by
    rw [Nat.mul_add, Nat.mul_comm nt, Nat.mul_assoc]
  unfold decodeMM
  simp only [e]
  generalize 4 * w.length + extra = size
  generalize 4 * hBlk w = B at *
  generalize 4 * hOff w = O at *
  constructor
  · intro h
    obtain ⟨-, h⟩ := Except.ok_of_ite h
    obtain ⟨-, h⟩ := Except.ok_of_ite h
    obtain ⟨h3, h⟩ := Except.ok_of_ite h
    obtain ⟨h4, h⟩ := Except.ok_of_ite h
    obtain ⟨h5, h⟩ := Except.ok_of_ite h
    refine ⟨_, Nat.pos_of_ne_zero h5, ?_, (Except.ok.inj h).symm⟩
    rw [Nat.mul_div_cancel' (Nat.dvd_of_mod_eq_zero (Classical.not_not.mp h4)), Nat.add_sub_cancel' (Nat.le_of_not_lt h3)]
  · rintro ⟨nt, hnt, rfl, rfl⟩
    -- `O ≤ size` also gives the two `mmapErr` tests: `O = 412 + 40 * nspec`
    have hsize : O ≤ O + B * nt := Nat.le_add_right O _
    have c1 : 404 ≤ O := by
      rw [hO]
      exact Nat.le_add_right_of_le (by decide)
    have c2 : 408 + 40 * hNspec w ≤ O := by
      rw [hO]
      exact Nat.add_le_add_right (by decide) _
    rw [Nat.add_sub_cancel_left, Nat.mul_mod_right, Nat.mul_div_cancel_left nt hB,
      if_neg (Nat.not_lt.mpr (Nat.le_trans c1 hsize)), if_neg (Nat.not_lt.mpr (Nat.le_trans c2 hsize)),
      if_neg (Nat.not_lt.mpr hsize), if_neg (not_not_intro rfl), if_neg (Nat.ne_of_gt hnt)]

theorem decodeMM_of_length (w : List Word) (nt : Nat) (hnt : 0 < nt) (h : w.length = hOff w + nt * hBlk w) :
    decodeMM w 0 = .ok (mkView w nt) :=
  (decodeMM_eq_ok w 0 _).mpr ⟨nt, hnt, congrArg (4 * ·) h, rfl⟩

/-- the header counts sit in the first 89 words -/
theorem header_take (w : List Word) (m : Nat) (hm : 89 ≤ m) :
    hNspec (w.take m) = hNspec w ∧ hNx (w.take m) = hNx w ∧ hNy (w.take m) = hNy w ∧ hNz (w.take m) = hNz w := by
  have hlt : ∀ {i}, i < 89 → i < m := fun hi => Nat.lt_of_lt_of_le hi hm
  unfold hNspec hNx hNy hNz
  rw [List.getD_take (hlt (by decide)), List.getD_take (hlt (by decide)), List.getD_take (hlt (by decide)),
    List.getD_take (hlt (by decide))]
  exact ⟨rfl, rfl, rfl, rfl⟩

theorem strides_take (w : List Word) (m : Nat) (hm : 89 ≤ m) : hOff (w.take m) = hOff w ∧ hBlk (w.take m) = hBlk w := by
  obtain ⟨eN, eX, eY, eZ⟩ := header_take w m hm
  unfold hOff hBlk
  rw [eN, eX, eY, eZ]
  exact ⟨rfl, rfl⟩

theorem mkView_take (w : List Word) (m nt : Nat) (hm : hOff w + nt * hBlk w ≤ m) : mkView (w.take m) nt = mkView w nt := by
  -- the header fields end before word `hOff w = 103 + 10 * hNspec w`
  have hO : 103 + 10 * hNspec w ≤ m := Nat.le_trans (Nat.le_add_right _ _) hm
  have hnum : ∀ {k}, k ≤ 103 → k ≤ m := fun hk => Nat.le_trans (Nat.le_add_right_of_le hk) hO
  have h89 : 89 ≤ m := hnum (by decide)
  have hm1 : 1 + 76 ≤ m := hnum (by decide)
  have hm2 : 79 + 15 ≤ m := hnum (by decide)
  have hm3 : 102 + 10 * hNspec w ≤ m := Nat.le_trans (Nat.add_le_add_right (by decide) _) hO
  obtain ⟨eN, eX, eY, eZ⟩ := header_take w m h89
  obtain ⟨eO, eB⟩ := strides_take w m h89
  have hsteps : ∀ t ∈ List.range nt, (((w.take m).drop (hOff w)).drop (t * hBlk w)).take (hBlk w) =
      ((w.drop (hOff w)).drop (t * hBlk w)).take (hBlk w) := by
    intro t ht
    have hfit : hOff w + t * hBlk w + hBlk w ≤ m := calc
      _ = hOff w + (t * hBlk w + hBlk w) := Nat.add_assoc _ _ _
      _ ≤ hOff w + nt * hBlk w := Nat.add_le_add_left (Nat.mul_add_le_mul _ (List.mem_range.mp ht)) _
      _ ≤ m := hm
    rw [List.drop_drop, List.drop_drop, List.take_drop_take hfit]
  unfold mkView
  rw [eN, eX, eY, eZ, eB, eO, List.take_drop_take hm1, List.take_drop_take hm2, List.take_drop_take hm3,
    List.map_congr_left (fun t ht => congrArg _ (hsteps t ht))]

theorem mkView_steps_take (w : List Word) (k nt : Nat) (hk : k ≤ nt) :
    mkView w k = { mkView w nt with steps := (mkView w nt).steps.take k } := by
  simp only [mkView, ← List.map_take, List.take_range, Nat.min_eq_left hk]

theorem words_of_bytes {m extra N : Nat} (hx : extra < 4) (h : 4 * m + extra = 4 * N) : m = N := by omega

theorem decodeMM_take (w : List Word) (m extra : Nat) (hx : extra < 4) (hm : 4 * m + extra ≤ 4 * w.length)
    (v0 : MMView) (h0 : decodeMM w 0 = .ok v0) (v : MMView) :
    decodeMM (w.take m) extra = .ok v ↔
      ∃ k, 0 < k ∧ 4 * m + extra = 4 * (hOff w + k * hBlk w) ∧ k ≤ v0.steps.length ∧
        v = { v0 with steps := v0.steps.take k } := by
  obtain ⟨nt, -, hlen, rfl⟩ := (decodeMM_eq_ok w 0 v0).mp h0
  have hnt : (mkView w nt).steps.length = nt := by rw [mkView, List.length_map, List.length_range]
  have hwl : w.length = hOff w + nt * hBlk w := words_of_bytes (Nat.succ_pos 3) hlen
  have hmw : m ≤ w.length := Nat.le_of_mul_le_mul_left (Nat.le_trans (Nat.le_add_right _ extra) hm) (Nat.succ_pos 3)
  rw [decodeMM_eq_ok, List.length_take, Nat.min_eq_left hmw, hnt]
  -- an accepted size is whole words, at least the 103 in front of the species names: the strides are those of `w`
  have hwords : ∀ x k, 4 * m + extra = 4 * (hOff x + k * hBlk x) → m = hOff x + k * hBlk x ∧ 89 ≤ m := fun x k h =>
    have hmk := words_of_bytes hx h
    ⟨hmk, hmk ▸ Nat.le_add_right_of_le (Nat.le_add_right_of_le (by decide))⟩
  have hview : ∀ k, m = hOff w + k * hBlk w → k ≤ nt →
      mkView (w.take m) k = { mkView w nt with steps := (mkView w nt).steps.take k } :=
    fun k hmk hk => by rw [mkView_take w m k (Nat.le_of_eq hmk.symm), mkView_steps_take w k nt hk]
  constructor
  · rintro ⟨k, hk, hsize, rfl⟩
    obtain ⟨hmk, h89⟩ := hwords _ k hsize
    obtain ⟨eO, eB⟩ := strides_take w m h89
    rw [eO, eB] at hsize hmk
    have hknt : k ≤ nt := by
      rw [hmk, hwl] at hmw
      exact Nat.le_of_mul_le_mul_right (Nat.le_of_add_le_add_left hmw) (hBlk_pos w)
    exact ⟨k, hk, hsize, hknt, hview k hmk hknt⟩
  · rintro ⟨k, hk, hsize, hknt, rfl⟩
    obtain ⟨hmk, h89⟩ := hwords _ k hsize
    obtain ⟨eO, eB⟩ := strides_take w m h89
    exact ⟨k, hk, by rw [eO, eB]; exact hsize, (hview k hmk hknt).symm⟩

/-- **a proper prefix is never silently misread (uamiv memory-mapped reader).** For ANY file `w`
that the reader accepts, and any prefix of `w` (`m` whole words and `extra` < 4 further bytes),
the reader either raises, or presents exactly the first `k` complete time steps of `w` with the
same header, grid, species and dimension counts — never a shifted or partly filled step. -/
theorem prefix_safe (w : List Word) (m extra : Nat) (hx : extra < 4) (hm : 4 * m + extra ≤ 4 * w.length)
    (v0 : MMView) (h0 : decodeMM w 0 = .ok v0) :
    (∃ e, decodeMM (w.take m) extra = .error e) ∨
    (∃ k, k ≤ v0.steps.length ∧ decodeMM (w.take m) extra = .ok { v0 with steps := v0.steps.take k }) := by
  cases hd : decodeMM (w.take m) extra with
  | error e => exact Or.inl ⟨e, rfl⟩
  | ok v =>
    obtain ⟨k, -, -, hk, rfl⟩ := (decodeMM_take w m extra hx hm v0 h0 v).mp hd
    exact Or.inr ⟨k, hk, rfl⟩

/-! ### the layout of the encoding

one time block: a six-word time record, then per species `nz` records of `13 + cells` words -/

theorem speciesRecords_uniform {cells : Nat} {p : List Nat × List (List Word)} (hs : p.1.length = 10)
    (hd : ∀ d ∈ p.2, d.length = cells) : ∀ r ∈ speciesRecords p, r.length = 11 + cells :=
  List.forall_mem_map.mpr fun d hdm => by rw [dataRec_length _ _ hs, hd d hdm]

theorem speciesWords_length {nz cells : Nat} {p : List Nat × List (List Word)} (hs : p.1.length = 10)
    (hl : p.2.length = nz) (hd : ∀ d ∈ p.2, d.length = cells) :
    (encodeRecs (speciesRecords p)).length = nz * (13 + cells) := by
  rw [encodeRecs_length_uniform (speciesRecords_uniform hs hd), speciesRecords, List.length_map, hl, Nat.add_right_comm]

/-- 12 words in front of the values: marker, the constant 1, ten characters -/
theorem speciesWords_slice {cells : Nat} {p : List Nat × List (List Word)} (hs : p.1.length = 10)
    (hd : ∀ d ∈ p.2, d.length = cells) {z : Nat} (hz : z < p.2.length) :
    ((encodeRecs (speciesRecords p)).drop (z * (13 + cells) + 12)).take cells = p.2[z] := by
  have hc : (chars p.1).length = 10 := by rw [chars_length, hs]
  have hzl : z < (speciesRecords p).length := by rw [speciesRecords, List.length_map]; exact hz
  rw [show 13 + cells = 11 + cells + 2 from Nat.add_right_comm 11 2 cells,
    slice_encodeRecs_uniform (speciesRecords_uniform hs hd) hzl (a := 11) (Nat.le_refl _)]
  simp only [speciesRecords, List.getElem_map, dataRec, List.drop_succ_cons, List.drop_left' hc]
  exact List.take_of_length_le (Nat.le_of_eq (hd _ (List.getElem_mem _)))

theorem stepWords_eq (species : List (List Nat)) (s : Step) :
    encodeRecs (stepRecords species s) = [16, s.ibdate, s.btime, s.iedate, s.etime, 16] ++
      ((List.zip species s.data).map (fun p => encodeRecs (speciesRecords p))).flatten := by
  rw [stepRecords, encodeRecs_cons, List.flatMap_def, encodeRecs_flatten, List.map_map]
  rfl

theorem speciesWords_uniform {species : List (List Nat)} {nz cells : Nat} {s : Step}
    (hs : ∀ x ∈ species, x.length = 10) (hok : StepOK species.length nz cells s) :
    ∀ c ∈ (List.zip species s.data).map (fun p => encodeRecs (speciesRecords p)), c.length = nz * (13 + cells) :=
  List.forall_mem_map.mpr fun _ hp =>
    have ⟨h1, h2⟩ := List.of_mem_zip hp
    speciesWords_length (hs _ h1) (hok.2 _ h2).1 (hok.2 _ h2).2

theorem stepWords_length {species : List (List Nat)} {nz cells : Nat} {s : Step}
    (hs : ∀ x ∈ species, x.length = 10) (hok : StepOK species.length nz cells s) :
    (encodeRecs (stepRecords species s)).length = 6 + species.length * nz * (13 + cells) := by
  rw [stepWords_eq, List.length_append, List.length_flatten_uniform (speciesWords_uniform hs hok), List.length_map,
    List.length_zip, hok.1, Nat.min_self, Nat.mul_assoc]
  rfl

theorem readStep_encode {species : List (List Nat)} {nz cells : Nat} {s : Step}
    (hs : ∀ x ∈ species, x.length = 10) (hok : StepOK species.length nz cells s) :
    readStep species.length nz cells (encodeRecs (stepRecords species s)) = s := by
  have hu := speciesWords_uniform hs hok
  obtain ⟨hl, hlay⟩ := hok
  rw [stepWords_eq]
  unfold readStep
  simp only [List.getD_cons_succ, List.getD_cons_zero, List.cons_append, List.nil_append,
    List.drop_succ_cons, List.drop_zero]
  congr 1
  refine List.range_map_eq hl fun si hsi => ?_
  obtain ⟨hnz, hcells⟩ := hlay _ (List.getElem_mem hsi)
  refine List.range_map_eq hnz fun z hz => ?_
  have hzi : z * (13 + cells) + 12 + cells ≤ nz * (13 + cells) := by
    have := Nat.mul_add_le_mul (13 + cells) (Nat.lt_of_lt_of_eq hz hnz)
    omega
  have hzip : si < ((List.zip species s.data).map fun p => encodeRecs (speciesRecords p)).length := by
    rw [List.length_map, List.length_zip, ← hl, Nat.min_self]
    exact hsi
  rw [List.drop_drop, Nat.add_assoc, List.slice_flatten_uniform hu hzip hzi, List.getElem_map, List.getElem_zip]
  exact speciesWords_slice (hs _ (List.getElem_mem _)) hcells _

/-! the whole file: four header records, then one block per step -/

/-- what the reader should present for content `f` -/
def viewOf (f : Uamiv) : MMView :=
  { nspec := f.nspec, nx := f.nx, ny := f.ny, nz := f.nz,
    hdr := chars f.name ++ chars f.note ++ [f.itzon, f.nspec, f.ibdate, f.btime, f.iedate, f.etime],
    grid := f.grid, species := f.species, steps := f.steps }

def hdrRecs (f : Uamiv) : List (List Word) :=
  [chars f.name ++ chars f.note ++ [f.itzon, f.nspec, f.ibdate, f.btime, f.iedate, f.etime],
   f.grid, [1, 1, f.nx, f.ny], (f.species.map chars).flatten]

def bodyWords (f : Uamiv) : List Word := (f.steps.map (fun s => encodeRecs (stepRecords f.species s))).flatten

theorem encode_eq (f : Uamiv) : f.encode = encodeRecs (hdrRecs f) ++ bodyWords f := by
  rw [Uamiv.encode, Uamiv.records, encodeRecs_append, List.flatMap_def, encodeRecs_flatten, List.map_map]
  rfl

theorem hdrRecs_sizes (f : Uamiv) (h : WF f) : (hdrRecs f).map List.length = Boundary.hdrSizes f.nspec := by
  simp [hdrRecs, Boundary.hdrSizes, chars_length, h.name, h.note, h.grid, flatten_chars_length f.species h.species,
    Uamiv.nspec]

theorem bodyWords_uniform (f : Uamiv) (h : WF f) :
    ∀ c ∈ f.steps.map (fun s => encodeRecs (stepRecords f.species s)), c.length = blockWords f.nspec f.nz f.nx f.ny :=
  List.forall_mem_map.mpr fun s hs => stepWords_length h.species (h.steps s hs)

theorem encode_cut (f : Uamiv) (h : WF f) :
    Boundary.cutRecs (Boundary.hdrSizes f.nspec) f.encode = (hdrRecs f, bodyWords f) := by
  rw [encode_eq, ← hdrRecs_sizes f h, Boundary.cutRecs_encode]

theorem encode_length (f : Uamiv) (h : WF f) :
    f.encode.length = 103 + 10 * f.nspec + f.steps.length * blockWords f.nspec f.nz f.nx f.ny := by
  rw [encode_eq, List.length_append, ← Boundary.framedLen_encode, hdrRecs_sizes f h, bodyWords,
    List.length_flatten_uniform (bodyWords_uniform f h), List.length_map]
  simp only [Boundary.hdrSizes, Boundary.framedLen]
  omega

theorem encode_slices (f : Uamiv) (h : WF f) :
    (f.encode.drop 1).take 76 = chars f.name ++ chars f.note ++ [f.itzon, f.nspec, f.ibdate, f.btime, f.iedate, f.etime] ∧
    (f.encode.drop 79).take 15 = f.grid ∧ (f.encode.drop 96).take 4 = [1, 1, f.nx, f.ny] ∧
    (f.encode.drop 102).take (10 * f.nspec) = (f.species.map chars).flatten ∧
    f.encode.drop (103 + 10 * f.nspec) = bodyWords f :=
  Boundary.hdr_slices (encode_cut f h)

theorem header_encode (f : Uamiv) (h : WF f) (hnz : 1 ≤ f.nz) :
    hNspec f.encode = f.nspec ∧ hNx f.encode = f.nx ∧ hNy f.encode = f.ny ∧ hNz f.encode = f.nz := by
  obtain ⟨h1, h2, -⟩ := encode_slices f h
  refine ⟨(List.getD_of_slice h1 (i := 71) (by decide) 0).trans (hdr_getD f h 1),
    List.getD_of_slice h2 (i := 7) (by decide) 0, List.getD_of_slice h2 (i := 8) (by decide) 0, ?_⟩
  exact (congrArg (max · 1) (List.getD_of_slice h2 (i := 9) (by decide) 0)).trans (Nat.max_eq_left hnz)

theorem mkView_encode (f : Uamiv) (h : WF f) (hnz : 1 ≤ f.nz) : mkView f.encode f.steps.length = viewOf f := by
  obtain ⟨h1, h2, -, h4, h5⟩ := encode_slices f h
  obtain ⟨eN, eX, eY, eZ⟩ := header_encode f h hnz
  have hu := bodyWords_uniform f h
  have hsp : (splitEvery 10 f.nspec (f.species.map chars).flatten).map (·.map wordChar) = f.species :=
    splitEvery_species f.species h.species
  have hsteps : (List.range f.steps.length).map (fun t => readStep f.nspec f.nz (f.nx * f.ny)
      (((bodyWords f).drop (t * blockWords f.nspec f.nz f.nx f.ny)).take (blockWords f.nspec f.nz f.nx f.ny))) = f.steps := by
    refine List.range_map_eq rfl fun t ht => ?_
    rw [bodyWords, List.chunk_flatten_uniform hu (by rw [List.length_map]; exact ht), List.getElem_map]
    exact readStep_encode h.species (h.steps _ (List.getElem_mem ht))
  unfold mkView viewOf hOff hBlk dataOffset
  rw [eN, eX, eY, eZ, h1, h2, h4, h5, hsp, hsteps]

/-- **the memory-mapped reader reads what the encoder wrote**: for every well-formed content with
at least one layer and one time step, the fixed-stride reader applied to the encoding presents
exactly the content (header, grid, species, every step and data word). -/
theorem decodeMM_encode (f : Uamiv) (h : WF f) (hnz : 1 ≤ f.nz) (hnt : f.steps ≠ []) :
    decodeMM f.encode 0 = .ok (viewOf f) := by
  obtain ⟨eN, eX, eY, eZ⟩ := header_encode f h hnz
  rw [← mkView_encode f h hnz]
  refine decodeMM_of_length _ _ (List.length_pos_iff.mpr hnt) ?_
  rw [encode_length f h, hOff, hBlk, dataOffset, eN, eX, eY, eZ]

/-! ### dates and times: the stored date, the ×100 loop of `ConvertCAMxTime` (`scaleTimes`) -/

/-- what is stored is the last five digits: two of the year, three of the day -/
theorem encDate_eq_mod {d : Nat} (h : 100000 ≤ d) : encDate d = d % 100000 := by
  have hq : 100000 ≤ d / 100000 * 100000 := Nat.le_mul_of_pos_left _ (Nat.div_pos h (by decide))
  calc d % (d / 100000 * 100000) = (d / 100000 * 100000 + d % 100000) % (d / 100000 * 100000) := by rw [Nat.div_add_mod']
    _ = d % 100000 % (d / 100000 * 100000) := Nat.add_mod_left _ _
    _ = d % 100000 := Nat.mod_eq_of_lt (Nat.lt_of_lt_of_le (Nat.mod_lt d (by decide)) hq)

theorem le_foldl_max (ts : List Int) (a t : Int) (h : t ∈ ts) : t ≤ ts.foldl max a :=
  (List.max?_le_iff List.max?_cons').mp (Int.le_refl _) t (List.mem_cons_of_mem a h)

theorem foldl_max_lt (ts : List Int) (a B : Int) (ha : a < B) (h : ∀ t ∈ ts, t < B) : ts.foldl max a < B := by
  rcases List.mem_cons.mp (List.max?_mem (List.max?_cons' (x := a) (xs := ts))) with e | e
  · rw [e]
    exact ha
  · exact h _ e

theorem not_all_zero {ts : List Int} {t0 : Int} (h0 : t0 ∈ ts) (h1 : 1 ≤ t0) : ts.all (· == 0) = false := by
  rw [Bool.eq_false_iff]
  intro hall
  have : t0 = 0 := beq_iff_eq.mp (List.all_eq_true.mp hall t0 h0)
  omega

theorem scaleTimes_step (fuel : Nat) (ts : List Int) (t0 : Int) (h0 : t0 ∈ ts) (h1 : 1 ≤ t0) (hb : ∀ t ∈ ts, t < 10000) :
    scaleTimes (fuel + 1) ts = scaleTimes fuel (ts.map (· * 100)) := by
  have hlt1 := foldl_max_lt ts 0 10000 (by decide) hb
  have hlt2 := foldl_max_lt ts (ts.headD 0) 10000 (by
    cases ts with
    | nil => exact absurd h0 List.not_mem_nil
    | cons x xs => exact hb x List.mem_cons_self) hb
  simp only [scaleTimes, not_all_zero h0 h1, Bool.false_eq_true, if_false, hlt1, hlt2, and_self, if_true]

theorem scaleTimes_stop (fuel : Nat) (ts : List Int) (t0 : Int) (h0 : t0 ∈ ts) (h1 : 10000 ≤ t0) : scaleTimes fuel ts = ts := by
  cases fuel with
  | zero => rfl
  | succ fuel =>
    have hge := le_foldl_max ts 0 t0 h0
    simp only [scaleTimes, not_all_zero h0 (Int.le_trans (by decide) h1), Bool.false_eq_true, if_false]
    rw [if_neg (by omega)]

end Camx
