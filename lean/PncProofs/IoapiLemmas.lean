import PncModel.Ioapi
import PncProofs.CalLemmas
import PncProofs.C02
/-!
Lemmas about the IOAPI metadata model.  Every operation ends in `updatemeta`, so what that needs of the state it is
called on (`Ready`) and what it returns (`Settled`) are said of the frame and the TFLAG of the pre-state alone.
-/
namespace Ioapi
open Cal TimeDec

/-- the part of the state the variable bookkeeping never touches -/
structure Frame where
  grid : Bool
  nT : Nat
  nL : Nat
  nR : Nat
  nC : Nat
  nP : Nat
  nrows : Nat
  ncols : Nat
  nlays : Nat
  vglvls : List Rat
  sdate : Int
  stime : Int
  tstep : Int
  xorig : Rat
  yorig : Rat
  xcell : Rat
  ycell : Rat

def frame (s : St) : Frame :=
  ⟨s.grid, s.nT, s.nL, s.nR, s.nC, s.nP, s.nrows, s.ncols, s.nlays, s.vglvls, s.sdate, s.stime, s.tstep,
   s.xorig, s.yorig, s.xcell, s.ycell⟩

@[simp] theorem frame_add2Varlist (s : St) (ks : List String) : frame (add2Varlist s ks) = frame s := rfl
@[simp] theorem vars_add2Varlist (s : St) (ks : List String) : (add2Varlist s ks).vars = s.vars := rfl
@[simp] theorem tflag_add2Varlist (s : St) (ks : List String) : (add2Varlist s ks).tflag = s.tflag := rfl
@[simp] theorem varDim_add2Varlist (s : St) (ks : List String) : (add2Varlist s ks).varDim = s.varDim := rfl

@[simp] theorem frame_putVar (s : St) (v : DVar) : frame (putVar s v) = frame s := rfl
@[simp] theorem tflag_putVar (s : St) (v : DVar) : (putVar s v).tflag = s.tflag := rfl
@[simp] theorem varDim_putVar (s : St) (v : DVar) : (putVar s v).varDim = s.varDim := rfl

@[simp] theorem frame_putTflag (s : St) (w : Nat) (r : List (Int × Int)) : frame (putTflag s w r) = frame s := rfl
@[simp] theorem tflag_putTflag (s : St) (w : Nat) (r : List (Int × Int)) : (putTflag s w r).tflag = some (w, r) := rfl
@[simp] theorem vars_putTflag (s : St) (w : Nat) (r : List (Int × Int)) : (putTflag s w r).vars = s.vars := rfl

@[simp] theorem frame_putAll (s : St) (vs : List DVar) : frame (putAll s vs) = frame s :=
  List.foldlRecOn (motive := fun o : St => frame o = frame s) vs putVar rfl fun _ ho _ _ => ho

@[simp] theorem tflag_putAll (s : St) (vs : List DVar) : (putAll s vs).tflag = s.tflag :=
  List.foldlRecOn (motive := fun o : St => o.tflag = s.tflag) vs putVar rfl fun _ ho _ _ => ho

@[simp] theorem frame_getVarlist (s : St) : frame (getVarlist s) = frame s := rfl
@[simp] theorem vars_getVarlist (s : St) : (getVarlist s).vars = s.vars := rfl
@[simp] theorem tflag_getVarlist (s : St) : (getVarlist s).tflag = s.tflag := rfl

@[simp] theorem frame_setVarlist (s : St) (l : List String) : frame (setVarlist s l) = frame s := rfl
@[simp] theorem frame_setVars (s : St) (l : List DVar) : frame (setVars s l) = frame s := rfl
@[simp] theorem frame_setVarDim (s : St) (n : Nat) : frame (setVarDim s n) = frame s := rfl
@[simp] theorem frame_dropVar (s : St) (k : String) : frame (dropVar s k) = frame s := rfl
@[simp] theorem tflag_setVarlist (s : St) (l : List String) : (setVarlist s l).tflag = s.tflag := rfl
@[simp] theorem tflag_setVars (s : St) (l : List DVar) : (setVars s l).tflag = s.tflag := rfl
@[simp] theorem tflag_setVarDim (s : St) (n : Nat) : (setVarDim s n).tflag = s.tflag := rfl
@[simp] theorem tflag_dropVar (s : St) (k : String) : (dropVar s k).tflag = s.tflag := rfl
@[simp] theorem frame_setVglvls (s : St) (l : List Rat) : frame (setVglvls s l) = { frame s with vglvls := l } := rfl
@[simp] theorem tflag_setVglvls (s : St) (l : List Rat) : (setVglvls s l).tflag = s.tflag := rfl
@[simp] theorem tflag_setNlays (s : St) (n : Nat) : (setNlays s n).tflag = s.tflag := rfl
@[simp] theorem tflag_setGeo (s : St) (vg : List Rat) (xo yo : Rat) (sd st ts : Int) :
    (setGeo s vg xo yo sd st ts).tflag = s.tflag := rfl
@[simp] theorem frame_setGeo (s : St) (vg : List Rat) (xo yo : Rat) (sd st ts : Int) :
    frame (setGeo s vg xo yo sd st ts) =
      { frame s with vglvls := vg, xorig := xo, yorig := yo, sdate := sd, stime := st, tstep := ts } := rfl
@[simp] theorem tflag_setDim (s : St) (d : Dm) (n : Nat) : (setDim s d n).tflag = s.tflag := by cases d <;> rfl
@[simp] theorem frame_setNlays (s : St) (n : Nat) : frame (setNlays s n) = { frame s with nlays := n } := rfl
@[simp] theorem frame_shell (s : St) : frame (shell s) = frame s := rfl
@[simp] theorem tflag_shell (s : St) : (shell s).tflag = none := rfl

/-! ### what `getVarlist` establishes -/

theorem listable_congr {a b : St} (h : a.vars = b.vars) (k : String) : listable a k = listable b k := by
  unfold listable
  rw [h]

theorem listable_hasVar {s : St} {k : String} (h : listable s k = true) : hasVar s k = true := by
  unfold listable at h
  unfold hasVar
  simp only [Bool.and_eq_true, List.any_eq_true, decide_eq_true_eq] at h ⊢
  obtain ⟨⟨v, hv, hk⟩, _⟩ := h
  exact ⟨v, hv, hk.1⟩

/-- the normal form `getVarlist` leaves behind -/
structure Norm (q : St) : Prop where
  nvars : q.nvars = q.varlist.length
  varDim : q.varDim = max q.varlist.length 1
  listed : ∀ k ∈ q.varlist, listable q k = true

theorem Norm.congr {a b : St} (h : Norm a) (hv : b.vars = a.vars) (hl : b.varlist = a.varlist) (hn : b.nvars = a.nvars)
    (hd : b.varDim = a.varDim) : Norm b :=
  ⟨hl ▸ hn ▸ h.nvars, hl ▸ hd ▸ h.varDim, fun k hk => (listable_congr hv k).trans (h.listed k (hl ▸ hk))⟩

theorem Norm.varDim_eq {q : St} (h : Norm q) (hn : 1 ≤ q.varlist.length) : q.varDim = q.varlist.length :=
  h.varDim.trans (Nat.max_eq_left hn)

theorem norm_getVarlist (s : St) : Norm (getVarlist s) := by
  refine ⟨rfl, rfl, ?_⟩
  intro k hk
  simp only [getVarlist] at hk
  rw [listable_congr (vars_getVarlist s)]
  exact (List.mem_filter.mp hk).2

/-- TFLAG itself is never listed -/
theorem add2Varlist_tflag (s : St) : (add2Varlist s ["TFLAG"]).varlist = s.varlist ∧
    (add2Varlist s ["TFLAG"]).nvars = (s.varlist.filter (present s)).length := by
  simp [add2Varlist]

theorem add2Varlist_tflag_norm (q : St) (h : Norm q) (tf : Option (Nat × List (Int × Int))) :
    (add2Varlist { q with tflag := tf } ["TFLAG"]).varlist = q.varlist ∧
    (add2Varlist { q with tflag := tf } ["TFLAG"]).nvars = q.varlist.length := by
  have hk : q.varlist.filter (present { q with tflag := tf }) = q.varlist :=
    List.filter_eq_self.mpr fun k hk => Bool.or_eq_true_iff.mpr (Or.inl (listable_hasVar (h.listed k hk)))
  exact ⟨(add2Varlist_tflag _).1, (add2Varlist_tflag _).2.trans (congrArg List.length hk)⟩

/-! ### the variables and the list under `putVar` -/

theorem mem_vars_putVar (o : St) (v w : DVar) (h : w ∈ (putVar o v).vars) : w ∈ o.vars ∨ w = v := by
  simp only [putVar, vars_add2Varlist, List.mem_append, List.mem_filter, List.mem_singleton] at h
  exact h.imp_left And.left

theorem mem_vars_putAll (o : St) (vs : List DVar) (w : DVar) (h : w ∈ (putAll o vs).vars) : w ∈ o.vars ∨ w ∈ vs :=
  List.foldlRecOn (motive := fun q : St => w ∈ q.vars → w ∈ o.vars ∨ w ∈ vs) vs putVar Or.inl
    (fun q ih v hv hw => (mem_vars_putVar q v w hw).elim ih fun e => Or.inr (e ▸ hv)) h

theorem putAll_vars : ∀ (vs : List DVar) (o : St), ((o.vars ++ vs).map (·.name)).Nodup →
    (putAll o vs).vars = o.vars ++ vs
  | [], o, _ => (List.append_nil _).symm
  | v :: vs, o, h => by
    have hv : (putVar o v).vars = o.vars ++ [v] := by
      -- no variable of `o` has the name of `v`, so none is filtered out
      have hne : ∀ w ∈ o.vars, (w.name != v.name) = true := fun w hw =>
        bne_iff_ne.mpr ((List.nodup_append.mp (List.map_append ▸ h)).2.2 _ (List.mem_map_of_mem hw) _
          (List.mem_map_of_mem List.mem_cons_self))
      simp only [putVar, vars_add2Varlist]
      rw [List.filter_eq_self.mpr hne]
    show (putAll (putVar o v) vs).vars = o.vars ++ v :: vs
    rw [putAll_vars vs (putVar o v) (by rwa [hv, List.append_assoc]), hv, List.append_assoc]
    rfl

/-- a name the source lists is in `o.varlist` already (`hI`), so it is not appended again -/
theorem filter_listable_add2Varlist (s o : St) (k : String) (hall : ∀ k, listable s k = true → k ∈ s.varlist)
    (hI : o.varlist.filter (listable s) = s.varlist) (hp : present o k = true) :
    (add2Varlist o [k]).varlist.filter (listable s) = s.varlist := by
  show (o.varlist ++ _).filter (listable s) = s.varlist
  rw [List.filter_append, hI, List.filter_eq_nil_iff.mpr, List.append_nil]
  intro x hx hl
  obtain ⟨hxk, hF⟩ := List.mem_filter.mp hx
  obtain rfl := List.mem_singleton.mp hxk
  have : x ∈ o.varlist.filter (present o) :=
    List.mem_filter.mpr ⟨(List.mem_filter.mp (hI ▸ hall x hl)).1, hp⟩
  simp [this] at hF

theorem filter_listable_putAll (s : St) (hall : ∀ k, listable s k = true → k ∈ s.varlist) (vs : List DVar) (o : St)
    (h : o.varlist.filter (listable s) = s.varlist) : (putAll o vs).varlist.filter (listable s) = s.varlist :=
  List.foldlRecOn (motive := fun o : St => o.varlist.filter (listable s) = s.varlist) vs putVar h
    fun _ hI v _ => filter_listable_add2Varlist s _ v.name hall hI (by simp [present, hasVar])

/-! ### time flags -/

/-- a well-formed flag in the year range Python's `datetime` (and `strptime('%Y%j')`) accepts -/
def GoodFlag (d t : Int) : Prop := validFlag d t = true ∧ 1000 ≤ d / 1000 ∧ d / 1000 ≤ 9999

/-- `¬ d < 1`: the attribute branch of `getTimes` takes the date as it is -/
theorem goodFlag_strptimeOk {d t : Int} (h : GoodFlag d t) : ¬ d < 1 ∧ strptimeOk d t = true := by
  obtain ⟨hv, h1, h2⟩ := h
  simp only [validFlag, decide_eq_true_eq] at hv
  have hlen := yearLen_eq_or (d / 1000)
  simp only [strptimeOk, decide_eq_true_eq]
  omega

theorem goodFlag_fix {d t : Int} (h : GoodFlag d t) : fixDate d = d := by
  have := h.2.1
  exact if_neg (by omega)

theorem synthRows_spec (s : St) (h : GoodFlag s.sdate s.stime) :
    (synthRows s).length = s.nT ∧ (∀ r ∈ (synthRows s).head?, r = (s.sdate, s.stime)) := by
  obtain ⟨hd, hok⟩ := goodFlag_strptimeOk h
  unfold synthRows synthFlags attrTimes
  simp only [hd, if_false, hok, Bool.not_true, Bool.false_eq_true, Except.map]
  constructor
  · simp
  · intro r hr
    cases hn : s.nT with
    | zero => simp [hn] at hr
    | succ n =>
      simp only [hn, List.range_succ_eq_map, List.map_cons, Nat.cast_zero, mul_zero, add_zero, List.map_map,
        List.head?_cons, Option.mem_def, Option.some.injEq] at hr
      rw [← hr]
      exact encJ_decJ _ _ h.1

/-! ### the parts of the property -/

/-- the count attributes (NLAYS; NROWS and NCOLS of a gridded file) are the lengths of their dimensions -/
structure DimsOk (F : Frame) : Prop where
  nlays : F.nlays = F.nL
  nrows_ncols : F.grid = true → F.nrows = F.nR ∧ F.ncols = F.nC

/-- a TFLAG in step with the frame -/
structure Timed (F : Frame) (tf : Option (Nat × List (Int × Int))) : Prop where
  start : GoodFlag F.sdate F.stime
  keep : ∀ w rows, tf = some (w, rows) → rows.length = F.nT ∧ ∀ r ∈ rows.head?, r = (F.sdate, F.stime)

/-- what `updatemeta` needs of the state it is called on, said of its frame and TFLAG alone -/
structure Ready (F : Frame) (tf : Option (Nat × List (Int × Int))) : Prop extends Timed F tf where
  vg : F.vglvls.length = F.nL + 1

theorem Timed.congr {F G : Frame} {tf} (h : Timed F tf) (hd : G.sdate = F.sdate) (ht : G.stime = F.stime)
    (hn : G.nT = F.nT) : Timed G tf :=
  ⟨hd ▸ ht ▸ h.start, fun w rows e => hd ▸ ht ▸ hn ▸ h.keep w rows e⟩

theorem timed_of_rows {F : Frame} {w : Nat} {rows : List (Int × Int)} (hs : GoodFlag F.sdate F.stime)
    (hl : rows.length = F.nT) (hh : ∀ r ∈ rows.head?, r = (F.sdate, F.stime)) : Timed F (some (w, rows)) :=
  ⟨hs, fun _ _ e => by cases e; exact ⟨hl, hh⟩⟩

theorem Ready.tflag_none {F : Frame} {tf} (h : Ready F tf) : Ready F none := ⟨⟨h.start, nofun⟩, h.vg⟩

theorem Ready.append {F : Frame} {w w2 n2 : Nat} {rows rows2 : List (Int × Int)} (h : Ready F (some (w, rows)))
    (h2 : rows2.length = n2) (hne : rows = [] → ∀ r ∈ rows2.head?, r = (F.sdate, F.stime)) :
    Ready { F with nT := F.nT + n2 } (some (w2, rows ++ rows2)) := by
  obtain ⟨hl, hh⟩ := h.keep w rows rfl
  refine ⟨timed_of_rows h.start (by simp [hl, h2]) (fun r hr => ?_), h.vg⟩
  cases rows with
  | nil => exact hne rfl r (by simpa using hr)
  | cons a as => exact hh r (by simpa using hr)

theorem Coherent.nvars {s : St} (h : Coherent s) : s.nvars = s.varlist.length := h.1
theorem Coherent.varDim {s : St} (h : Coherent s) : s.varDim = s.varlist.length := h.2.1
theorem Coherent.tflag {s : St} (h : Coherent s) : ∃ rows, s.tflag = some (s.varlist.length, rows) ∧
    rows.length = s.nT ∧ ∀ r ∈ rows.head?, r = (s.sdate, s.stime) := h.2.2.1
theorem Coherent.listed {s : St} (h : Coherent s) : ∀ k ∈ s.varlist, listable s k = true := h.2.2.2.1
theorem Coherent.vg {s : St} (h : Coherent s) : s.vglvls.length = s.nL + 1 := h.2.2.2.2.2.2
theorem Coherent.dimsOk {s : St} (h : Coherent s) : DimsOk (frame s) := ⟨h.2.2.2.2.1, h.2.2.2.2.2.1⟩

theorem Coherent.ready {s : St} (h : Coherent s) (hs : GoodFlag s.sdate s.stime) : Ready (frame s) s.tflag := by
  obtain ⟨rows, htf, hl, hh⟩ := h.tflag
  rw [htf]
  exact ⟨timed_of_rows hs hl hh, h.vg⟩

/-! ### `updatetflag` -/

theorem updatetflag_cases (q : St) (f : Bool) :
    (updatetflag q f = q ∧ ∃ rows, q.tflag = some (q.nvars, rows) ∧ f = false) ∨
    (∃ d t, updatetflag q f =
        { add2Varlist { q with tflag := none } ["TFLAG"] with
          tflag := some (q.varDim, synthRows q), sdate := d, stime := t } ∧
        ((synthRows q).head? = some (d, t) ∨ ((synthRows q).head? = none ∧ d = q.sdate ∧ t = q.stime))) := by
  simp only [updatetflag]
  -- the decision to write TFLAG anew, as a variable
  generalize ho : (f || _) = o
  cases o with
  | true =>
    right
    simp only [if_true]
    cases hr : (synthRows q).head? with
    | none => exact ⟨q.sdate, q.stime, rfl, Or.inr ⟨rfl, rfl, rfl⟩⟩
    | some r => exact ⟨r.1, r.2, rfl, Or.inl rfl⟩
  | false =>
    left
    simp only [Bool.false_eq_true, if_false, true_and]
    cases htf : q.tflag with
    | none => simp [htf] at ho
    | some wr =>
      obtain ⟨w, rows⟩ := wr
      simp only [htf, Bool.or_eq_false_iff, bne_eq_false_iff_eq] at ho
      exact ⟨rows, by rw [ho.2], ho.1⟩

theorem norm_updatetflag (q : St) (f : Bool) (hN : Norm q) :
    Norm (updatetflag q f) ∧ (updatetflag q f).varlist = q.varlist := by
  rcases updatetflag_cases q f with ⟨heq, _⟩ | ⟨d, t, heq, _⟩
  · rw [heq]
    exact ⟨hN, rfl⟩
  · rw [heq]
    obtain ⟨hvl, hnv⟩ := add2Varlist_tflag_norm q hN none
    exact ⟨hN.congr rfl hvl (hnv.trans hN.nvars.symm) rfl, hvl⟩

/-- SDATE/STIME are rewritten from the first row `updatetflag` writes, which is the start flag when that flag is good -/
theorem frame_updatetflag (q : St) (f : Bool) (hs : GoodFlag (frame q).sdate (frame q).stime) :
    frame (updatetflag q f) = frame q := by
  rcases updatetflag_cases q f with ⟨heq, -⟩ | ⟨d, t, heq, hdt⟩
  · rw [heq]
  · have hd : (d, t) = (q.sdate, q.stime) := by
      rcases hdt with h1 | ⟨_, rfl, rfl⟩
      · exact (synthRows_spec q hs).2 (d, t) (by rw [h1]; rfl)
      · rfl
    cases hd
    rw [heq]
    rfl

/-- `w`: NVARS if TFLAG was kept, the VAR dimension if it was written anew -/
theorem timed_updatetflag (q : St) (f : Bool) (hs : GoodFlag (frame q).sdate (frame q).stime) :
    ∃ w rows, (updatetflag q f).tflag = some (w, rows) ∧ (w = q.nvars ∨ w = q.varDim) ∧
      ((f = true ∨ Timed (frame q) q.tflag) → Timed (frame (updatetflag q f)) (some (w, rows))) := by
  rw [frame_updatetflag q f hs]
  rcases updatetflag_cases q f with ⟨heq, rows, ht, hf⟩ | ⟨d, t, heq, -⟩
  · rw [heq]
    exact ⟨_, rows, ht, .inl rfl, fun hk => ht ▸ hk.resolve_left (by simp [hf])⟩
  · obtain ⟨hlen, hhead⟩ := synthRows_spec q hs
    rw [heq]
    exact ⟨_, _, rfl, .inr rfl, fun _ => timed_of_rows hs hlen hhead⟩

theorem tflag_updatetflag_none (q : St) (f : Bool) (h : q.tflag = none) :
    (updatetflag q f).tflag = some (q.varDim, synthRows q) := by
  rcases updatetflag_cases q f with ⟨_, rows, ht, _⟩ | ⟨d, t, heq, _⟩
  · rw [h] at ht
    cases ht
  · rw [heq]

theorem updatetflag_keep (q : St) (rows : List (Int × Int)) (h : q.tflag = some (q.nvars, rows)) :
    updatetflag q false = q := by
  unfold updatetflag
  simp [h]

/-! ### `updatemeta` is a normaliser -/

/-- the count attributes `updatemeta` refreshes -/
def attrs (q : St) : St :=
  { q with nlays := q.nL, ncols := if q.grid then q.nC else q.ncols, nrows := if q.grid then q.nR else q.nrows }

theorem updatemeta_def (p : St) : updatemeta p = updatetflag (attrs (getVarlist p)) := rfl

theorem norm_attrs (q : St) (h : Norm q) : Norm (attrs q) := h.congr rfl rfl rfl rfl

@[simp] theorem tflag_attrs (q : St) : (attrs q).tflag = q.tflag := rfl

def Frame.refreshed (F : Frame) : Frame :=
  { F with nlays := F.nL, ncols := if F.grid then F.nC else F.ncols, nrows := if F.grid then F.nR else F.nrows }

@[simp] theorem frame_attrs (q : St) : frame (attrs q) = (frame q).refreshed := rfl

theorem dimsOk_refreshed (F : Frame) : DimsOk F.refreshed := by
  refine ⟨rfl, fun hg => ?_⟩
  have hg' : F.grid = true := hg
  simp [Frame.refreshed, hg']

theorem attrs_eq_self {q : St} (h : DimsOk (frame q)) : attrs q = q := by
  have hc : (if q.grid then q.nC else q.ncols) = q.ncols := by
    split
    · exact (h.nrows_ncols ‹_›).2.symm
    · rfl
  have hr : (if q.grid then q.nR else q.nrows) = q.nrows := by
    split
    · exact (h.nrows_ncols ‹_›).1.symm
    · rfl
  unfold attrs
  rw [hc, hr]
  exact congrArg (fun n => { q with nlays := n }) h.nlays.symm

theorem norm_updatemeta (p : St) : Norm (updatemeta p) ∧ (updatemeta p).varlist = (getVarlist p).varlist :=
  norm_updatetflag _ false (norm_attrs _ (norm_getVarlist p))

theorem frame_updatemeta (p : St) (hs : GoodFlag (frame p).sdate (frame p).stime) :
    frame (updatemeta p) = (frame p).refreshed := by
  have hfq : frame (attrs (getVarlist p)) = (frame p).refreshed := by rw [frame_attrs, frame_getVarlist]
  exact (frame_updatetflag _ false (hfq ▸ hs)).trans hfq

/-- `1 ≤ …`: a TFLAG written anew is as wide as the VAR dimension, `max length 1` -/
theorem timed_updatemeta (p : St) (hs : GoodFlag (frame p).sdate (frame p).stime) :
    ∃ w rows, (updatemeta p).tflag = some (w, rows) ∧
      (1 ≤ (updatemeta p).varlist.length → w = (updatemeta p).varlist.length) ∧
      (Timed (frame p) p.tflag → Timed (frame (updatemeta p)) (some (w, rows))) := by
  have hN := norm_attrs _ (norm_getVarlist p)
  have hfq : frame (attrs (getVarlist p)) = (frame p).refreshed := by rw [frame_attrs, frame_getVarlist]
  obtain ⟨w, rows, e, hw, hT⟩ := timed_updatetflag (attrs (getVarlist p)) false (hfq ▸ hs)
  rw [hfq, tflag_attrs, tflag_getVarlist] at hT
  refine ⟨w, rows, e, fun hn => ?_, fun h => hT (.inr (h.congr rfl rfl rfl))⟩
  rw [(norm_updatemeta p).2] at hn ⊢
  rcases hw with rfl | rfl
  · exact hN.nvars
  · exact hN.varDim_eq hn

/-- **`updatemeta()` establishes the property** on any state with at least one listable variable, the right
number of level edges and a TFLAG that (if it survives) has one row per step starting at SDATE/STIME. -/
theorem coherent_updatemeta (p : St) (hn : 1 ≤ (getVarlist p).varlist.length)
    (hv : p.vglvls.length = p.nL + 1) (hstart : GoodFlag p.sdate p.stime)
    (hkeep : ∀ w rows, p.tflag = some (w, rows) →
      rows.length = p.nT ∧ ∀ r ∈ rows.head?, r = (p.sdate, p.stime)) :
    Coherent (updatemeta p) := by
  obtain ⟨hN, hvl⟩ := norm_updatemeta p
  obtain ⟨w, rows, e, hw, hT⟩ := timed_updatemeta p hstart
  have hf := frame_updatemeta p hstart
  have hD : DimsOk (frame (updatemeta p)) := hf ▸ dimsOk_refreshed _
  have hvg : (frame (updatemeta p)).vglvls.length = (frame (updatemeta p)).nL + 1 := hf ▸ hv
  rw [← hvl] at hn
  cases hw hn
  exact ⟨hN.nvars, hN.varDim_eq hn, ⟨rows, e, (hT ⟨hstart, hkeep⟩).keep _ rows rfl⟩, hN.listed, hD.nlays,
    hD.nrows_ncols, hvg⟩

/-- what every operation returns: `updatemeta` of a state that was `Ready` for it -/
def Settled (s' : St) : Prop := ∃ p, s' = updatemeta p ∧ Ready (frame p) p.tflag

theorem Settled.of_frame {p : St} {F : Frame} {tf} (hf : frame p = F) (ht : p.tflag = tf) (hr : Ready F tf) :
    Settled (updatemeta p) :=
  ⟨p, rfl, hf ▸ ht ▸ hr⟩

theorem Settled.ready {s' : St} (h : Settled s') :
    ∃ w rows, s'.tflag = some (w, rows) ∧ Ready (frame s') (some (w, rows)) := by
  obtain ⟨p, rfl, hr⟩ := h
  obtain ⟨w, rows, e, -, hT⟩ := timed_updatemeta p hr.start
  exact ⟨w, rows, e, hT hr.toTimed, frame_updatemeta p hr.start ▸ hr.vg⟩

theorem Settled.coherent {s' : St} (h : Settled s') (hn : 1 ≤ s'.varlist.length) : Coherent s' := by
  obtain ⟨p, rfl, hr⟩ := h
  exact coherent_updatemeta p ((norm_updatemeta p).2 ▸ hn) hr.vg hr.start hr.keep

/-! ### the pre-states of the operations -/

theorem copyVarsInto_keeps {α} (f : St → α) (hf : ∀ s w r, f (putTflag s w r) = f s) (o src : St)
    (g : List (Int × Int) → List (Int × Int)) : f (copyVarsInto o src g) = f (putAll o src.vars) := by
  unfold copyVarsInto
  cases src.tflag with
  | none => rfl
  | some wr => exact hf _ _ _

theorem frame_copyVarsInto (o src : St) (g : List (Int × Int) → List (Int × Int)) :
    frame (copyVarsInto o src g) = frame o :=
  (copyVarsInto_keeps frame frame_putTflag o src g).trans (frame_putAll o _)

theorem vars_copyVarsInto (o src : St) (g : List (Int × Int) → List (Int × Int)) :
    (copyVarsInto o src g).vars = (putAll o src.vars).vars :=
  copyVarsInto_keeps (·.vars) vars_putTflag o src g

theorem varlist_copyVarsInto (o src : St) (g : List (Int × Int) → List (Int × Int)) :
    (copyVarsInto o src g).varlist = (putAll o src.vars).varlist :=
  copyVarsInto_keeps (·.varlist) (fun _ _ _ => (add2Varlist_tflag _).1) o src g

theorem tflag_copyVarsInto (o src : St) (g : List (Int × Int) → List (Int × Int)) :
    (copyVarsInto o src g).tflag = match src.tflag with
      | some (w, r) => some (w, g r)
      | none => o.tflag := by
  unfold copyVarsInto
  cases src.tflag with
  | none => exact tflag_putAll o _
  | some wr => rfl

theorem frame_setVglvls_copyVarsInto (o src : St) (g : List (Int × Int) → List (Int × Int)) (l : List Rat) :
    frame (setVglvls (copyVarsInto o src g) l) = { frame o with vglvls := l } := by
  rw [frame_setVglvls, frame_copyVarsInto]

theorem tflag_copyVarsInto_of_some {o src : St} {w : Nat} {r : List (Int × Int)} (h : src.tflag = some (w, r))
    (g : List (Int × Int) → List (Int × Int)) : (copyVarsInto o src g).tflag = some (w, g r) := by
  rw [tflag_copyVarsInto, h]

theorem tflag_copyVarsInto_id (o src : St) (g : List (Int × Int) → List (Int × Int)) (ho : o.tflag = none)
    (hg : ∀ r, g r = r) : (copyVarsInto o src g).tflag = src.tflag := by
  rw [tflag_copyVarsInto]
  cases src.tflag with
  | none => exact ho
  | some wr => simp only [hg]

theorem frame_slicePre (s : St) (it il ir ic ip : Option (List Nat)) :
    frame (slicePre s it il ir ic ip) =
      { frame s with nT := newLen s.nT it, nL := newLen s.nL il, nR := newLen s.nR ir, nC := newLen s.nC ic,
                     nP := newLen s.nP ip, vglvls := selLevels il s.vglvls, xorig := selOrig ic s.xorig s.xcell,
                     yorig := selOrig ir s.yorig s.ycell, sdate := (selStart s it).1, stime := (selStart s it).2.1,
                     tstep := (selStart s it).2.2 } := by
  simp only [slicePre, frame_setGeo, frame_copyVarsInto]
  rfl

theorem frame_subsetPre (s : St) (keys : List String) : frame (subsetPre s keys) = frame s := by
  simp [subsetPre]

theorem tflag_subsetPre (s : St) (keys : List String) : (subsetPre s keys).tflag = none := by
  simp [subsetPre]

theorem frame_renamePre (s : St) (v : DVar) (o n : String) : frame (renamePre s v o n) = frame s := by
  rw [renamePre, frame_add2Varlist, frame_setVarlist, frame_dropVar, frame_putVar, frame_copyVarsInto, frame_shell]

theorem tflag_renamePre (s : St) (v : DVar) (o n : String) : (renamePre s v o n).tflag = s.tflag := by
  simp only [renamePre, tflag_add2Varlist, tflag_setVarlist, tflag_dropVar, tflag_putVar]
  exact tflag_copyVarsInto_id _ s id rfl fun _ => rfl

theorem frame_evalInPre (s : St) (nv : DVar) : frame (evalInPre s nv) = frame s := by
  simp [evalInPre]

theorem tflag_evalInPre (s : St) (nv : DVar) : (evalInPre s nv).tflag = s.tflag := by
  simp [evalInPre]

theorem frame_evalOutPre (s : St) (nv : DVar) (src : String) :
    frame (evalOutPre s nv src) = frame (opSubset s [src]) := by
  simp [evalOutPre]

theorem tflag_evalOutPre (s : St) (nv : DVar) (src : String) :
    (evalOutPre s nv src).tflag = (opSubset s [src]).tflag := by
  simp [evalOutPre]

/-- `copy()` omits `attrs`; with the counts right there is nothing to refresh -/
theorem opCopy_eq_updatemeta (s : St) (h : DimsOk (frame s)) : opCopy s = updatemeta (putAll (shell s) s.vars) := by
  have hf : frame (getVarlist (putAll (shell s) s.vars)) = frame s := by simp
  rw [updatemeta_def, attrs_eq_self (hf ▸ h)]
  rfl

theorem frame_opCopy (s : St) (hs : GoodFlag s.sdate s.stime) : frame (opCopy s) = frame s := by
  have hf : frame (getVarlist (putAll (shell s) s.vars)) = frame s := by simp
  exact (frame_updatetflag _ false (hf ▸ hs)).trans hf

theorem pointsDims_not_std (d : List String) (hb : d ≠ stdB) : (pointsDims d == stdG || pointsDims d == stdB) = false := by
  -- a tuple that ends in POINTS is not standard: no standard tuple has POINTS
  have hp : ∀ pre t : List String, "POINTS" ∉ t → pre ++ ["POINTS"] ≠ t := fun pre t ht e => ht (e ▸ by simp)
  have hstd : ∀ pre : List String, pre ++ ["POINTS"] ≠ stdG ∧ pre ++ ["POINTS"] ≠ stdB := fun pre =>
    ⟨hp pre _ (by simp [stdG]), hp pre _ (by simp [stdB])⟩
  rw [Bool.or_eq_false_iff, beq_eq_false_iff_ne, beq_eq_false_iff_ne]
  unfold pointsDims
  split
  · exact hstd ["TSTEP", "LAY"]
  · rename_i hg
    split
    · exact hstd _
    · -- neither ROW nor COL in it: nothing is removed
      rename_i hc
      simp only [Bool.or_eq_true, List.contains_eq_mem, decide_eq_true_eq, not_or] at hc
      rw [List.append_nil, List.filter_eq_self.mpr fun k hk => by
        simp only [Bool.and_eq_true, bne_iff_ne, ne_eq]
        exact ⟨fun e => hc.1 (e ▸ hk), fun e => hc.2 (e ▸ hk)⟩]
      exact ⟨by simpa using hg, hb⟩

theorem mem_vars_pointsPre (s : St) (w : DVar) (h : w ∈ (pointsPre s).vars) : ∃ v ∈ s.vars, w = pointsVar v := by
  rw [pointsPre, vars_copyVarsInto] at h
  rcases mem_vars_putAll _ _ w h with h0 | h1
  · cases h0
  · obtain ⟨v, hv, rfl⟩ := List.mem_map.mp h1
    exact ⟨v, hv, rfl⟩

/-! ### windows and picked sub-lists -/

theorem winIdx_lt {n : Nat} {w : Win} {i : List Nat} (h : winIdx n w = some i) : ∀ k ∈ i, k < n := by
  -- a window is one of the selectors of C02
  obtain ⟨p, hp⟩ : ∃ p : PFile.PSel, p.indices n = some i := by
    cases w with
    | int v => exact ⟨.int v, h⟩
    | slc a b => exact ⟨.slice a b 1, h⟩
    | sl a b st =>
      simp only [winIdx] at h
      split at h
      · cases h
      · exact ⟨.slice a b st, h⟩
    | lst l => exact ⟨.list l, h⟩
  exact Props.C02.indices_lt n p i hp

theorem idxOf_named {n : Nat} {w : Win} {io : Option (List Nat)} (h : idxOf n (some w) = some io) :
    ∃ i, io = some i ∧ winIdx n w = some i ∧ i ≠ [] ∧ ∀ k ∈ i, k < n := by
  simp only [idxOf] at h
  split at h
  · cases h
  · rename_i i hne hw
    cases h
    exact ⟨i, rfl, hw, hne, winIdx_lt hw⟩
  · cases h

theorem idxOf_some {n : Nat} {w : Option Win} {i : List Nat} (h : idxOf n w = some (some i)) :
    i ≠ [] ∧ ∀ k ∈ i, k < n := by
  cases w with
  | none => cases h
  | some w =>
    obtain ⟨j, hj, _, hne, hlt⟩ := idxOf_named h
    cases hj
    exact ⟨hne, hlt⟩

theorem opSlice_some {s s' : St} {kw : Kw} (hs : opSlice s kw = some s') :
    ∃ it il ir ic ip, idxOf s.nT kw.t = some it ∧ idxOf s.nL kw.l = some il ∧ idxOf s.nR kw.r = some ir ∧
      idxOf s.nC kw.c = some ic ∧ idxOf s.nP kw.p = some ip ∧ s' = updatemeta (slicePre s it il ir ic ip) := by
  -- neither guard returned `none`
  rw [opSlice, Option.ite_none_left_eq_some, Option.ite_none_left_eq_some] at hs
  obtain ⟨-, -, hs⟩ := hs
  split at hs
  · rename_i it il ir ic ip hit hil hir hic hip
    cases hs
    exact ⟨it, il, ir, ic, ip, hit, hil, hir, hic, hip, rfl⟩
  · cases hs

theorem pickL_cons {α} (k : Nat) (i : List Nat) (l : List α) (h : k < l.length) :
    pickL (k :: i) l = l[k] :: pickL i l := by
  simp only [pickL, List.filterMap_cons, List.getElem?_eq_getElem h]

theorem pickL_head? {α} (i : List Nat) (l : List α) (hne : i ≠ []) (h : ∀ k ∈ i, k < l.length) :
    (pickL i l).head? = l[i.headD 0]? := by
  cases i with
  | nil => exact absurd rfl hne
  | cons k rest =>
    rw [pickL_cons k rest l (h k List.mem_cons_self)]
    exact (List.getElem?_eq_getElem _).symm

theorem pickL_defined {α} (i : List Nat) (l : List α) (h : ∀ k ∈ i, k < l.length) :
    i.map (fun k => l[k]?) = (pickL i l).map some :=
  List.map_some_filterMap fun k hk => by simpa using h k hk

theorem pickL_length {α} (i : List Nat) (l : List α) (h : ∀ k ∈ i, k < l.length) : (pickL i l).length = i.length :=
  List.length_of_map_eq_map_some (pickL_defined i l h)

theorem pickL_getElem? {α} (i : List Nat) (l : List α) (h : ∀ k ∈ i, k < l.length) (j : Nat) :
    (pickL i l)[j]? = (i[j]?).bind (fun k => l[k]?) :=
  List.getElem?_of_map_eq_map_some (pickL_defined i l h) j

theorem pickL_map {α β} (f : α → β) (i : List Nat) (l : List α) : pickL i (l.map f) = (pickL i l).map f := by
  simp only [pickL, List.getElem?_map, List.map_filterMap]

/-- the start time written for a TSTEP window is the flag of the first selected step -/
theorem sliceStart_eq_row (s : St) (w : Nat) (rows : List (Int × Int)) (i : List Nat) (htf : s.tflag = some (w, rows))
    (hne : i ≠ []) (hlt : ∀ k ∈ i, k < rows.length) (hg : ∀ r ∈ rows, GoodFlag r.1 r.2) :
    rows[i.headD 0]? = some ((sliceStart s i).1, (sliceStart s i).2.1) := by
  cases i with
  | nil => exact absurd rfl hne
  | cons k0 rest =>
    have hk := hlt k0 List.mem_cons_self
    have hg0 := hg _ (List.getElem_mem hk)
    unfold sliceStart getTimes decodeTflag
    rw [htf]
    simp only
    rw [pickL_map, pickL_cons k0 rest rows hk]
    simp only [List.map_cons, List.headD_cons]
    rw [goodFlag_fix hg0, encJ_decJ _ _ hg0.1]
    exact List.getElem?_eq_getElem hk

/-- the lower edge of every selected layer and the upper edge of the last -/
theorem sliceLevels_eq (vg : List Rat) (i : List Nat) (n : Nat) (hv : vg.length = n + 1) (hne : i ≠ [])
    (hlt : ∀ k ∈ i, k < n) : sliceLevels vg i = pickL i vg ++ (vg[i.getLast hne + 1]?).toList := by
  have h3 : i.getLast hne + 1 < vg.length := hv ▸ Nat.succ_lt_succ (hlt _ (List.getLast_mem hne))
  have h2 : i.getLast hne < vg.length - 1 := Nat.lt_sub_of_add_lt h3
  simp only [sliceLevels, List.getLast?_eq_some_getLast hne, h2, if_true, List.getElem?_eq_getElem h3, Option.toList_some]

theorem sliceLevels_length (vg : List Rat) (i : List Nat) (n : Nat) (hv : vg.length = n + 1) (hne : i ≠ [])
    (hlt : ∀ k ∈ i, k < n) : (sliceLevels vg i).length = i.length + 1 := by
  rw [sliceLevels_eq vg i n hv hne hlt, List.length_append,
    pickL_length i vg fun k hk => hv ▸ Nat.lt_succ_of_lt (hlt k hk),
    List.getElem?_eq_getElem (hv ▸ Nat.succ_lt_succ (hlt _ (List.getLast_mem hne)))]
  rfl

theorem sliceLevels_getElem? (vg : List Rat) (i : List Nat) (n : Nat) (hv : vg.length = n + 1) (hne : i ≠ [])
    (hlt : ∀ k ∈ i, k < n) (hcontig : ∀ j (hj : j < i.length), i[j] = i.headD 0 + j) (j : Nat) (hj : j ≤ i.length) :
    (sliceLevels vg i)[j]? = vg[i.headD 0 + j]? := by
  have hpos : 0 < i.length := List.length_pos_iff.mpr hne
  have hin : ∀ k ∈ i, k < vg.length := fun k hk => hv ▸ Nat.lt_succ_of_lt (hlt k hk)
  rw [sliceLevels_eq vg i n hv hne hlt]
  by_cases hjl : j < i.length
  · rw [List.getElem?_append_left (Nat.lt_of_lt_of_eq hjl (pickL_length i vg hin).symm), pickL_getElem? i vg hin j,
      List.getElem?_eq_getElem hjl, hcontig j hjl]
    rfl
  · obtain rfl : j = i.length := Nat.le_antisymm hj (Nat.not_lt.mp hjl)
    have hlast : i.getLast hne + 1 = i.headD 0 + i.length := by
      rw [List.getLast_eq_getElem, hcontig _ (Nat.sub_lt hpos Nat.one_pos), Nat.add_assoc, Nat.sub_add_cancel hpos]
    rw [List.getElem?_append_right (Nat.le_of_eq (pickL_length i vg hin)), pickL_length i vg hin, Nat.sub_self, hlast]
    cases vg[i.headD 0 + i.length]? with
    | none => rfl
    | some e => rfl

/-! ### functions along a dimension -/

theorem every2_length : ∀ (l : List Rat), (every2 l).length = (l.length + 1) / 2
  | [] => by simp [every2]
  | [_] => by simp [every2]
  | _ :: _ :: rest => by
    rw [every2, List.length_cons, every2_length rest]
    exact (Nat.add_div_right (rest.length + 1) (by decide)).symm

theorem applyFn_length (f : FnK) (l : List Rat) : (applyFn f l).length = fnLen f l.length := by
  unfold fnLen
  cases f with
  | mean | min | max | ends =>
    -- one value (two for `ends`) unless the list is empty
    cases l with
    | nil => rfl
    | cons a rest => simp [applyFn, ends, List.range_succ_eq_map]
  | _ =>
    -- the length is a function of the length of the list, and the list of `fnLen` is as long as `l`
    simp only [applyFn, every2_length, List.length_take, List.length_reverse, List.length_map, List.length_range,
      List.length_cons, List.length_nil]

/-- as many lower edges as new layers, and the upper edge of the last of them -/
theorem applyLevels_length (f : FnK) (vg : List Rat) (n : Nat) (hv : vg.length = n + 1) (hm : fnLen f n ≠ 0) :
    (applyLevels f vg).length = fnLen f n + 1 := by
  have h1 : (applyFn f vg.dropLast).length = fnLen f n := by
    rw [applyFn_length, List.length_dropLast, hv]
    rfl
  have h2 : (applyFn f (vg.drop 1)).length = fnLen f n := by
    rw [applyFn_length, List.length_drop, hv]
    rfl
  rw [applyLevels, List.getLast?_eq_some_getLast (List.ne_nil_of_length_pos (h2 ▸ Nat.pos_of_ne_zero hm)), List.length_append, h1]
  rfl

theorem opApply_some {s s' : St} {d : Dm} {f : FnK} (hs : opApply s d f = some s') :
    fnLen f (dimLen s d) ≠ 0 ∧
      s' = updatemeta (if d == Dm.T then updatetflag (updatemeta (applyPre s d f)) true else applyPre s d f) := by
  unfold opApply at hs
  by_cases hd : hasDim s d = true
  · by_cases hm : fnLen f (dimLen s d) = 0
    · simp [hd, hm] at hs
    · simp only [hd, hm, Bool.not_true, Bool.false_eq_true, if_false, Option.pure_def, Option.bind_eq_bind,
        Option.some.injEq] at hs
      exact ⟨hm, hs.symm⟩
  · simp [hd] at hs

end Ioapi
