import PncProofs.C01Seq

/-!
# C04 — `stack` and `sliceDimensions` as file operations: what the variables of the stacked file hold, a file cut into
consecutive pieces along a dimension, and the stack of the pieces
(array-level theorems: PncProofs/C04.lean; well-formedness of the result: `Props.C01.stack_wf`)
-/
namespace Props.C04
open PFile Arr PySlice Props.C01

/-- **C04 (stack, the data).** A variable that has the stack dimension (once) holds, in the stacked file, the
concatenation along that axis of the variable of that name of every file, in argument order; a variable without the
stack dimension is the first file's that has it. -/
theorem stackVar_data (fs : List File) (sd : String) (v v' : Var) (hs : stackVar fs sd v = .ok v') :
    (v.dims.contains sd = false → v' = v) ∧
    (v.dims.contains sd = true → ∃ ws, fs.mapM (fun h => h.var? v.name) = some ws ∧
      v' = { v with data := concatAll (v.dims.idxOf sd) (ws.map (·.data)) }) := by
  obtain ⟨hnm, rfl⟩ | ⟨hm, _, ws, hws, rfl⟩ := stackVar_ok hs
  · exact ⟨fun _ => rfl, fun h => absurd (List.contains_iff_mem.mp h) hnm⟩
  · exact ⟨fun h => absurd (List.contains_iff_mem.mpr hm) (Bool.eq_false_iff.mp h), fun _ => ⟨ws, hws, rfl⟩⟩

/-- the indices a unit-stride slice `[a:b]` with `0 ≤ a ≤ b ≤ n` selects -/
theorem sliceIndices_window (n a b : Nat) (hab : a ≤ b) (hbn : b ≤ n) :
    sliceIndices n (some (a : Int)) (some (b : Int)) 1 = List.range' a (b - a) := by
  unfold sliceIndices
  rw [sliceBounds_inside n Int.one_pos (Int.natCast_nonneg a) (Int.ofNat_le.mpr (Nat.le_trans hab hbn))
    (Int.natCast_nonneg b) (Int.ofNat_le.mpr hbn)]
  simp only
  rw [rangeList_unit _ _ (Int.natCast_nonneg a), List.range'_eq_map_range, ← Int.ofNat_sub hab, Int.toNat_natCast]
  rfl

/-- the per-axis selections of a variable when one dimension `sd` is cut to `[lo, lo + n)` -/
def cutSels (L : String → Nat) (sd : String) (lo n : Nat) (dims : List String) : List (List Nat) :=
  dims.map (fun k => if k == sd then List.range' lo n else List.range (L k))

theorem cutSels_noSd (L : String → Nat) (sd : String) (lo n : Nat) (dims : List String) (h : sd ∉ dims) :
    cutSels L sd lo n dims = (dims.map L).map List.range := by
  rw [cutSels, List.map_map]
  exact List.map_congr_left fun k hk => if_neg fun e => h ((eq_of_beq e : k = sd) ▸ hk)

/-- for a variable that has `sd` on exactly one axis the selections are a window on that axis -/
theorem cutSels_window (L : String → Nat) (sd : String) (lo n : Nat) : ∀ (dims : List String),
    (dims.filter (· == sd)).length = 1 →
    cutSels L sd lo n dims = windowSels (dims.map L) (dims.idxOf sd) lo n := fun dims h => by
  rw [windowSels_eq_set, List.map_map, cutSels,
    List.map_set_idxOf sd _ (List.range ∘ L) dims (fun k _ hne => by simp [hne]) h]
  simp

/-- one variable of a file cut along `sd` to the indices `l` -/
def cutVar (f : File) (sd : String) (l : List Nat) (v : Var) : Var :=
  { v with data := orth (v.dims.map (fun k => if k == sd then l else List.range (f.dimLen k))) v.data }

/-- **a unit-stride cut as a file operation**: `sliceDimensions(sd=slice(a, b))` gives the file whose dimension `sd` has
the new length and whose variables are cut on the axes that carry `sd` -/
theorem sliceFile_cut (f : File) (sd nd : String) (s : PSel) (l : List Nat) (hsd : (f.dim? sd).isSome = true)
    (hstep : ∀ a b, s ≠ .slice a b 0) (hl : s.indices (f.dimLen sd) = some l)
    (hnl : s.isList = false) :
    sliceFile f [(sd, s)] nd = .ok { f with
      dims := f.dims.map (fun d => { d with len := if d.name == sd then l.length else d.len }),
      vars := f.vars.map (cutVar f sd l) } := by
  have hidx : sliceIdx f [(sd, s)] = .ok [(sd, l)] := by
    unfold sliceIdx
    simp only [List.mapM_cons, List.mapM_nil, hl]
    rfl
  have hz : zippedSels [(sd, s)] = false := by simp [zippedSels, List.filter, hnl]
  -- on the one selector: the new length of a dimension, and the index list on an axis
  have hlen : ∀ d : Dim, slicedLen [(sd, l)] d = if d.name == sd then l.length else d.len := fun d => by
    rw [slicedLen, List.find?_singleton, BEq.comm]
    cases d.name == sd <;> rfl
  have hsel : ∀ k, selIdxs (selOfDim f [(sd, s)] [(sd, l)] false k) = if k == sd then l else List.range (f.dimLen k) :=
    fun k => by
      rw [selOfDim, lookupSel, List.find?_singleton, List.find?_singleton, BEq.comm]
      cases k == sd <;> rfl
  rw [sliceFile_unzipped nd hz (List.forall_mem_singleton.mpr hsd) (List.forall_mem_singleton.mpr hstep) hidx]
  simp only [hlen, List.map_map, Function.comp_def, hsel]
  rfl

/-- the file cut along `sd` to the indices `l` (what `sliceFile_cut` says `sliceDimensions` returns) -/
def cutFile (f : File) (sd : String) (l : List Nat) : File :=
  { f with dims := f.dims.map (fun d => { d with len := if d.name == sd then l.length else d.len }),
           vars := f.vars.map (cutVar f sd l) }

theorem cutVar_name (f : File) (sd : String) (l : List Nat) (v : Var) : (cutVar f sd l v).name = v.name := rfl
theorem cutVar_dims (f : File) (sd : String) (l : List Nat) (v : Var) : (cutVar f sd l v).dims = v.dims := rfl

theorem sliceFile_window {f : File} {sd : String} (nd : String) {a b : Nat} (hsd : (f.dim? sd).isSome = true) (hab : a ≤ b)
    (hb : b ≤ f.dimLen sd) :
    sliceFile f [(sd, .slice (some (a : Int)) (some (b : Int)) 1)] nd = .ok (cutFile f sd (List.range' a (b - a))) := by
  have hl : (PSel.slice (some (a : Int)) (some (b : Int)) 1).indices (f.dimLen sd) = some (List.range' a (b - a)) :=
    congrArg some (sliceIndices_window _ a b hab hb)
  exact sliceFile_cut f sd nd _ _ hsd (fun x y h => nomatch h) hl rfl

theorem cutVar_noSd {f : File} {sd : String} (l : List Nat) {v : Var} (hs : hasShape (v.dims.map f.dimLen) v.data = true)
    (h : sd ∉ v.dims) : cutVar f sd l v = v := by
  have h2 : v.dims.map (fun k => if k == sd then l else List.range (f.dimLen k)) = (v.dims.map f.dimLen).map List.range := by
    rw [List.map_map]
    exact List.map_congr_left fun k hk => if_neg fun (e : (k == sd) = true) => h (eq_of_beq e ▸ hk)
  rw [cutVar, h2, orth_full_id _ _ hs]

theorem cutVar_window (f : File) {sd : String} (lo n : Nat) (v : Var) (hone : (v.dims.filter (· == sd)).length = 1) :
    cutVar f sd (List.range' lo n) v =
      { v with data := orth (windowSels (v.dims.map f.dimLen) (v.dims.idxOf sd) lo n) v.data } := by
  rw [← cutSels_window f.dimLen sd lo n v.dims hone]
  rfl

theorem cutFile_namesNodup {f : File} (sd : String) (l : List Nat) (hn : NamesNodup f) : NamesNodup (cutFile f sd l) := by
  unfold NamesNodup cutFile
  rwa [List.map_map]

theorem cutFile_var? {f : File} (sd : String) (l : List Nat) (hn : NamesNodup f) {v : Var} (hv : v ∈ f.vars) :
    (cutFile f sd l).var? v.name = some (cutVar f sd l v) :=
  File.var?_of_mem (f := cutFile f sd l) (cutFile_namesNodup sd l hn) (List.mem_map_of_mem (f := cutVar f sd l) hv)

theorem cutFile_dim? (f : File) (sd : String) (l : List Nat) (k : String) :
    (cutFile f sd l).dim? k = (f.dim? k).map (fun d => { d with len := if d.name == sd then l.length else d.len }) :=
  File.dim?_map_len rfl k

theorem cutFile_dim?_isSome (f : File) (sd : String) (l : List Nat) (k : String) :
    ((cutFile f sd l).dim? k).isSome = (f.dim? k).isSome := by
  rw [cutFile_dim?, Option.isSome_map]

theorem cutFile_dimLen {f : File} (sd : String) (l : List Nat) {k : String} {d : Dim} (hd : f.dim? k = some d) :
    (cutFile f sd l).dimLen k = if d.name == sd then l.length else d.len := by
  rw [File.dimLen, cutFile_dim?, hd]
  rfl

theorem cutFile_dimLen_sd {f : File} {sd : String} (l : List Nat) (hsd : (f.dim? sd).isSome = true) :
    (cutFile f sd l).dimLen sd = l.length := by
  obtain ⟨d, hd⟩ := Option.isSome_iff_exists.mp hsd
  rw [cutFile_dimLen sd l hd]
  exact if_pos (beq_iff_eq.mpr (File.dim?_mem hd).2)

theorem cutFile_dimLen_other (f : File) (hdn : Props.C01.DimsNodup f) (sd : String) (l : List Nat) (d : Dim) (hd : d ∈ f.dims)
    (hne : d.name ≠ sd) : (cutFile f sd l).dimLen d.name = d.len := by
  rw [cutFile_dimLen sd l (File.dim?_of_mem hdn hd)]
  exact if_neg (mt eq_of_beq hne)

theorem cutFile_dims_mem (f : File) (sd : String) (l : List Nat) :
    ∀ d ∈ (cutFile f sd l).dims, ∃ d0 ∈ f.dims, d.name = d0.name := by
  intro d hd
  obtain ⟨d0, hd0, rfl⟩ := List.mem_map.mp hd
  exact ⟨d0, hd0, rfl⟩

/-- the consecutive pieces of lengths `lens` of a file along `sd` -/
def piecesOf (f : File) (sd : String) (lens : List Nat) : List File :=
  (windows 0 lens).map (fun w => cutFile f sd (List.range' w.1 w.2))

theorem piecesOf_cons (f : File) (sd : String) (n : Nat) (rest : List Nat) :
    piecesOf f sd (n :: rest) = cutFile f sd (List.range' 0 n) ::
      (windows (0 + n) rest).map (fun w => cutFile f sd (List.range' w.1 w.2)) := rfl

theorem piecesOf_cuts (f : File) (sd : String) (lens : List Nat) : ∀ g ∈ piecesOf f sd lens, ∃ l, g = cutFile f sd l := by
  intro g hg
  obtain ⟨w, _, rfl⟩ := List.mem_map.mp hg
  exact ⟨_, rfl⟩

/-- **split and stack, one variable, any partition.** For a well-formed variable that has `sd` on exactly one axis, the
variables of the consecutive pieces of lengths `lens` (not all pieces need be non-empty; the lengths add up to the length of
`sd`), stacked in order, are the variable. `l0`: the indices of the piece the stacked variable is taken from (the first
piece in `stack`; the statement does not depend on it). -/
theorem stackVar_partition (f : File) (sd : String) (lens l0 : List Nat) (hn : NamesNodup f) (v : Var) (hv : v ∈ f.vars)
    (hwf : Props.C01.VarWF f v) (hne : lens ≠ []) (hsum : lens.sum = f.dimLen sd)
    (hone : (v.dims.filter (· == sd)).length = 1) :
    stackVar (piecesOf f sd lens) sd (cutVar f sd l0 v) = .ok v := by
  obtain ⟨hk, hlen⟩ := List.idxOf_map_getD f.dimLen sd v.dims 0 (List.mem_of_filter_length_eq_one hone)
  have hws : (piecesOf f sd lens).mapM (fun g => g.var? (cutVar f sd l0 v).name) =
      some ((windows 0 lens).map (fun w => cutVar f sd (List.range' w.1 w.2) v)) := by
    rw [piecesOf, List.mapM_map]
    exact List.mapM_some _ fun w _ => cutFile_var? sd _ hn hv
  rw [stackVar_of_once (cutVar f sd l0 v) hone hws]
  simp only [List.map_map, Function.comp_def, cutVar_window f _ _ v hone, cutVar_dims]
  rw [concatAll_eq, concat_partition (v.dims.map f.dimLen) (v.dims.idxOf sd) v.data hwf.2 hk lens hne (by rw [hlen]; exact hsum)]
  rfl

theorem partition_vars {f : File} {sd : String} {lens : List Nat} (hwf : Props.C01.WF f) (hvn : NamesNodup f)
    (hne : lens ≠ []) (hsum : lens.sum = f.dimLen sd) (hone : ∀ v ∈ f.vars, (v.dims.filter (· == sd)).length ≤ 1) :
    (firstByName [] ((piecesOf f sd lens).flatMap (·.vars))).mapM (stackVar (piecesOf f sd lens) sd) = .ok f.vars := by
  obtain ⟨n, rest, rfl⟩ := List.exists_cons_of_ne_nil hne
  have hfirst : firstByName [] ((piecesOf f sd (n :: rest)).flatMap (·.vars)) = f.vars.map (cutVar f sd (List.range' 0 n)) := by
    apply firstByName_first (f0 := cutFile f sd (List.range' 0 n))
    · exact cutFile_namesNodup sd _ hvn
    · intro g hg w hw
      obtain ⟨_, _, rfl⟩ := List.mem_map.mp hg
      obtain ⟨v, hv, rfl⟩ := List.mem_map.mp hw
      exact ⟨_, List.mem_map_of_mem hv, rfl⟩
  rw [hfirst, List.mapM_map, List.mapM_ok id, List.map_id]
  intro v hv
  by_cases hm : sd ∈ v.dims
  · exact stackVar_partition f sd (n :: rest) _ hvn v hv (hwf v hv) hne hsum
      (List.filter_length_eq_one_of_mem (hone v hv) hm)
  · rw [Function.comp, cutVar_noSd _ (hwf v hv).2 hm]
    exact stackVar_of_not_mem _ v hm

/-- **the guards of `stack` pass on cuts of one file**: for any list of cuts of a file along `sd` (each with its own index
list), `stack` returns whenever every variable can be stacked -/
theorem stackFiles_cuts (f : File) (sd : String) (l0 : List Nat) (rest : List File) (hdn : Props.C01.DimsNodup f)
    (hsd : (f.dim? sd).isSome = true) (hgs : ∀ g ∈ cutFile f sd l0 :: rest, ∃ l, g = cutFile f sd l) (vars : List Var)
    (hvars : (firstByName [] ((cutFile f sd l0 :: rest).flatMap (·.vars))).mapM (stackVar (cutFile f sd l0 :: rest) sd) = .ok vars) :
    ∃ r, stackFiles (cutFile f sd l0 :: rest) sd = .ok r ∧ r.vars = vars ∧ r.attrs = f.attrs := by
  refine ⟨_, stackFiles_eq_ok_iff.mpr ⟨?_, ?_, ?_, vars, hvars, rfl⟩, rfl, rfl⟩
  · intro d hd _ g hg
    obtain ⟨l, rfl⟩ := hgs g hg
    obtain ⟨d0, hd0, hname⟩ := cutFile_dims_mem f sd _ d hd
    rw [cutFile_dim?_isSome, hname, File.dim?_of_mem hdn hd0]
    rfl
  · intro g hg d hd hne
    obtain ⟨l, rfl⟩ := hgs g hg
    obtain ⟨d0, hd0, hname⟩ := cutFile_dims_mem f sd l d hd
    have hne0 : d0.name ≠ sd := hname ▸ hne
    refine ⟨d0, mem_sharedDims.mpr ⟨?_, hne0, fun g' hg' => ?_⟩, hname.symm⟩
    · exact List.mem_map.mpr ⟨d0, hd0, by simp [hne0]⟩
    · obtain ⟨l', rfl⟩ := hgs g' hg'
      exact cutFile_dimLen_other f hdn sd l' d0 hd0 hne0
  · intro g hg
    obtain ⟨l, rfl⟩ := hgs g hg
    rw [cutFile_dim?_isSome, hsd]

/-- **C04 (any partition, as file operations).** For a file that meets the invariant of C01, a dimension `sd` of it that no
variable uses twice, and any list of piece lengths (at least one piece; pieces may be empty) that add up to the length of
`sd`: `stack` of the consecutive pieces along `sd` returns, and what it returns has the variables of the file — names,
dimension tuples, attributes, every cell —, its global attributes, and `sd` at its length. -/
theorem stack_partition (f : File) (sd : String) (lens : List Nat) (hinv : Props.C01.Inv f) (hsd : (f.dim? sd).isSome = true)
    (hne : lens ≠ []) (hsum : lens.sum = f.dimLen sd) (hone : ∀ v ∈ f.vars, (v.dims.filter (· == sd)).length ≤ 1) :
    ∃ r, stackFiles (piecesOf f sd lens) sd = .ok r ∧ r.vars = f.vars ∧ r.attrs = f.attrs ∧ r.dimLen sd = f.dimLen sd := by
  obtain ⟨hwf, hdn, hvn⟩ := hinv
  have hv := partition_vars hwf hvn hne hsum hone
  obtain ⟨n, rest, rfl⟩ := List.exists_cons_of_ne_nil hne
  obtain ⟨r, hr, h1, h2⟩ := stackFiles_cuts f sd (List.range' 0 n) _ hdn hsd (piecesOf_cuts f sd (n :: rest)) f.vars hv
  refine ⟨r, hr, h1, h2, ?_⟩
  rw [(stack_dim_sd (fs := piecesOf f sd (n :: rest)) hr).2, piecesOf, List.map_map, ← hsum]
  refine congrArg List.sum ((List.map_congr_left fun w _ => ?_).trans (windows_map_snd 0 (n :: rest)))
  rw [Function.comp, cutFile_dimLen_sd _ hsd, List.length_range']

/-- the pieces are what `sliceDimensions(sd=slice(lo, lo + n))` returns, window by window -/
theorem pieces_are_slices (f : File) (sd nd : String) (hsd : (f.dim? sd).isSome = true) :
    ∀ (lens : List Nat) (lo : Nat), lo + lens.sum ≤ f.dimLen sd →
    (windows lo lens).mapM (fun w => sliceFile f [(sd, .slice (some ((w.1 : Nat) : Int)) (some ((w.1 + w.2 : Nat) : Int)) 1)] nd) =
      .ok ((windows lo lens).map (fun w => cutFile f sd (List.range' w.1 w.2))) := fun lens lo hb =>
  List.mapM_ok _ fun w hw => by
    have := windows_mem_le lens lo w hw
    rw [sliceFile_window nd hsd (Nat.le_add_right _ _) (Nat.le_trans this.2 hb), Nat.add_sub_cancel_left]

/-- **C04 (split into any consecutive pieces, then stack; total form).** The window slices of any partition of `sd` are
taken, `stack` of them returns, and the result has the variables, global attributes and length of `sd` of the file. -/
theorem split_partition_then_stack (f : File) (sd nd : String) (lens : List Nat) (hinv : Props.C01.Inv f)
    (hsd : (f.dim? sd).isSome = true) (hne : lens ≠ []) (hsum : lens.sum = f.dimLen sd)
    (hone : ∀ v ∈ f.vars, (v.dims.filter (· == sd)).length ≤ 1) :
    ∃ ps r, (windows 0 lens).mapM (fun w => sliceFile f [(sd, .slice (some ((w.1 : Nat) : Int)) (some ((w.1 + w.2 : Nat) : Int)) 1)] nd) = .ok ps ∧
      stackFiles ps sd = .ok r ∧ r.vars = f.vars ∧ r.attrs = f.attrs ∧ r.dimLen sd = f.dimLen sd := by
  obtain ⟨r, hr, h⟩ := stack_partition f sd lens hinv hsd hne hsum hone
  exact ⟨_, r, pieces_are_slices f sd nd hsd lens 0 (Nat.le_of_eq ((Nat.zero_add _).trans hsum)), hr, h⟩

theorem piecesOf_pair (f : File) (sd : String) (c m : Nat) :
    piecesOf f sd [c, m] = [cutFile f sd (List.range' 0 c), cutFile f sd (List.range' c m)] := by
  simp [piecesOf, windows]

/-- **split and stack, one variable.** For a well-formed variable that has `sd` on exactly one axis, the variable of the
piece `[0, c)` stacked with that of the piece `[c, n)` is the variable. -/
theorem stackVar_pieces (f : File) (sd : String) (c : Nat) (hn : NamesNodup f) (v : Var) (hv : v ∈ f.vars)
    (hwf : Props.C01.VarWF f v) (hc : c ≤ f.dimLen sd) (hone : (v.dims.filter (· == sd)).length = 1) :
    stackVar [cutFile f sd (List.range' 0 c), cutFile f sd (List.range' c (f.dimLen sd - c))] sd
      (cutVar f sd (List.range' 0 c) v) = .ok v := by
  rw [← piecesOf_pair]
  exact stackVar_partition f sd _ _ hn v hv hwf (List.cons_ne_nil _ _) (pair_sum hc) hone

/-- the variables `stack` builds from the two pieces: those of the file -/
theorem pieces_vars (f : File) (sd : String) (c : Nat) (hwf : Props.C01.WF f) (hvn : NamesNodup f) (hc : c ≤ f.dimLen sd)
    (hone : ∀ v ∈ f.vars, (v.dims.filter (· == sd)).length ≤ 1) :
    (firstByName [] ([cutFile f sd (List.range' 0 c), cutFile f sd (List.range' c (f.dimLen sd - c))].flatMap (·.vars))).mapM
      (stackVar [cutFile f sd (List.range' 0 c), cutFile f sd (List.range' c (f.dimLen sd - c))] sd) = .ok f.vars := by
  rw [← piecesOf_pair]
  exact partition_vars hwf hvn (List.cons_ne_nil _ _) (pair_sum hc) hone

/-- **C04 (splitting and stacking reproduces the file).** Cut a file that meets the invariant at any point `c` of a
dimension `sd` (every variable has `sd` on at most one axis) into the pieces `[0, c)` and `[c, n)`; whenever `stack` of the
two pieces along `sd` returns, it returns the variables of the file — names, dimension tuples, attributes and every cell
— and its global attributes; `sd` has its length again and keeps its unlimited flag. -/
theorem stack_split (f r : File) (sd : String) (c : Nat) (hinv : Props.C01.Inv f) (hc : c ≤ f.dimLen sd)
    (hone : ∀ v ∈ f.vars, (v.dims.filter (· == sd)).length ≤ 1)
    (hr : stackFiles [cutFile f sd (List.range' 0 c), cutFile f sd (List.range' c (f.dimLen sd - c))] sd = .ok r) :
    r.vars = f.vars ∧ r.attrs = f.attrs := by
  obtain ⟨vars, hvars, rfl⟩ := stack_ok hr
  rw [pieces_vars f sd c hinv.1 hinv.2.2 hc hone] at hvars
  exact ⟨(Except.ok.inj hvars).symm, rfl⟩

theorem stack_partition_pair (f : File) (sd : String) (c : Nat) (hinv : Props.C01.Inv f) (hsd : (f.dim? sd).isSome = true)
    (hc : c ≤ f.dimLen sd) (hone : ∀ v ∈ f.vars, (v.dims.filter (· == sd)).length ≤ 1) :
    ∃ r, stackFiles [cutFile f sd (List.range' 0 c), cutFile f sd (List.range' c (f.dimLen sd - c))] sd = .ok r ∧
      r.vars = f.vars ∧ r.attrs = f.attrs ∧ r.dimLen sd = f.dimLen sd :=
  piecesOf_pair f sd c _ ▸ stack_partition f sd _ hinv hsd (List.cons_ne_nil _ _) (pair_sum hc) hone

/-- **in-domain ⇒ completes**: `stack` of the two pieces of a file that meets the invariant returns -/
theorem stack_pieces_ok (f : File) (sd : String) (c : Nat) (hinv : Props.C01.Inv f) (hsd : (f.dim? sd).isSome = true)
    (hc : c ≤ f.dimLen sd) (hone : ∀ v ∈ f.vars, (v.dims.filter (· == sd)).length ≤ 1) :
    ∃ r, stackFiles [cutFile f sd (List.range' 0 c), cutFile f sd (List.range' c (f.dimLen sd - c))] sd = .ok r := by
  obtain ⟨r, hr, _⟩ := stack_partition_pair f sd c hinv hsd hc hone
  exact ⟨r, hr⟩

/-- the same with the pieces taken by `sliceDimensions`, and the length of the stacked dimension -/
theorem stack_of_slices (f a b r : File) (sd nd : String) (c : Nat) (hinv : Props.C01.Inv f)
    (hsd : (f.dim? sd).isSome = true) (hc : c ≤ f.dimLen sd)
    (hone : ∀ v ∈ f.vars, (v.dims.filter (· == sd)).length ≤ 1)
    (ha : sliceFile f [(sd, .slice (some ((0 : Nat) : Int)) (some ((c : Nat) : Int)) 1)] nd = .ok a)
    (hb : sliceFile f [(sd, .slice (some ((c : Nat) : Int)) (some ((f.dimLen sd : Nat) : Int)) 1)] nd = .ok b)
    (hr : stackFiles [a, b] sd = .ok r) :
    r.vars = f.vars ∧ r.attrs = f.attrs ∧ r.dimLen sd = f.dimLen sd := by
  obtain ⟨r', hr', h⟩ := stack_partition_pair f sd c hinv hsd hc hone
  rw [sliceFile_window nd hsd (Nat.zero_le _) hc] at ha
  rw [sliceFile_window nd hsd hc (Nat.le_refl _)] at hb
  cases ha
  cases hb
  rw [Nat.sub_zero, hr'] at hr
  cases hr
  exact h

/-- **C04 (split then stack, total form).** For a file that meets the invariant, a dimension `sd` of it that no variable
uses twice and any cut point `c ≤ n`: the two window slices `[0, c)` and `[c, n)` are taken, `stack` of them along `sd`
returns, and what it returns has the variables (names, dimension tuples, attributes, every cell) and global attributes of
the file and `sd` at its length. No hypothesis on any call returning is left. -/
theorem split_then_stack (f : File) (sd nd : String) (c : Nat) (hinv : Props.C01.Inv f)
    (hsd : (f.dim? sd).isSome = true) (hc : c ≤ f.dimLen sd)
    (hone : ∀ v ∈ f.vars, (v.dims.filter (· == sd)).length ≤ 1) :
    ∃ a b r, sliceFile f [(sd, .slice (some ((0 : Nat) : Int)) (some ((c : Nat) : Int)) 1)] nd = .ok a ∧
      sliceFile f [(sd, .slice (some ((c : Nat) : Int)) (some ((f.dimLen sd : Nat) : Int)) 1)] nd = .ok b ∧
      stackFiles [a, b] sd = .ok r ∧ r.vars = f.vars ∧ r.attrs = f.attrs ∧ r.dimLen sd = f.dimLen sd := by
  obtain ⟨r, hr, h⟩ := stack_partition_pair f sd c hinv hsd hc hone
  exact ⟨_, _, r, sliceFile_window nd hsd (Nat.zero_le _) hc, sliceFile_window nd hsd hc (Nat.le_refl _), hr, h⟩

/-- non-vacuity: a file with a masked cell and a variable without the cut dimension meets every hypothesis of
`split_then_stack` at the cut point 1 of `t` (length 3), and the two pieces differ from the file -/
example :
    let f : File := ⟨[⟨"t", 3, true⟩, ⟨"x", 2, false⟩],
      [⟨"A", ["t", "x"], .node [.node [.leaf (some 1), .leaf (some 2)], .node [.leaf (some 3), .leaf none],
                               .node [.leaf (some 5), .leaf (some 6)]], [], false, false⟩,
       ⟨"B", ["x"], .node [.leaf (some 7), .leaf (some 8)], [], false, false⟩], ["NOTE=kept"]⟩
    Props.C01.Inv f ∧ (f.dim? "t").isSome = true ∧ 1 ≤ f.dimLen "t" ∧
      (∀ v ∈ f.vars, (v.dims.filter (· == "t")).length ≤ 1) ∧
      (cutFile f "t" (List.range' 0 1)).dimLen "t" = 1 ∧ (cutFile f "t" (List.range' 1 2)).dimLen "t" = 2 := by
  refine ⟨⟨?_, ?_, ?_⟩, ?_⟩
  · unfold WF VarWF
    decide +kernel
  · unfold DimsNodup
    decide +kernel
  · unfold NamesNodup
    decide +kernel
  · decide +kernel

/-- a file with a masked cell, a variable without `t`, and an attribute -/
def partitionExample : File := ⟨[⟨"t", 3, true⟩, ⟨"x", 2, false⟩],
  [⟨"A", ["t", "x"], .node [.node [.leaf (some 1), .leaf (some 2)], .node [.leaf (some 3), .leaf none],
                           .node [.leaf (some 5), .leaf (some 6)]], [], false, false⟩,
   ⟨"B", ["x"], .node [.leaf (some 7), .leaf (some 8)], [], false, false⟩], ["NOTE=kept"]⟩

/-- non-vacuity: the example cut along `t` (length 3) into pieces of lengths 1, 0 and 2 — three different pieces, one of
them empty — and stacked again -/
example : (piecesOf partitionExample "t" [1, 0, 2]).map (fun g => g.dimLen "t") = [1, 0, 2] ∧
    (stackFiles (piecesOf partitionExample "t" [1, 0, 2]) "t").toOption.map (fun r => r.vars.map (fun v => (v.name, v.dims, flatten v.data))) =
      some (partitionExample.vars.map (fun v => (v.name, v.dims, flatten v.data))) := by
  decide +kernel

end Props.C04
