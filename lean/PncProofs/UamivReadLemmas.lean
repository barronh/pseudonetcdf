import PncModel.Camx.UamivRead
import PncProofs.UamivLemmas
import Mathlib.Tactic.Ring

/-! The record reader of gridded files (`PncModel/Camx/UamivRead.lean`) on every word list with standard headers
(`Std`), out of which the memory-mapped reader cuts the same slabs; an encoded content whose time axis lies inside one
day is such a file. -/
namespace UamivRead
open Words Camx

theorem sint_small {w : Word} (h : w < 2147483648) : sint w = (w : Int) := by
  unfold sint
  rw [if_neg (Nat.not_le.mpr h)]

theorem timediff_same_day (e d x y : Int) : timediff e (d, x) (d, y) = y - x := by
  unfold timediff
  simp only [Int.sub_self, Int.zero_mul, Int.zero_add]

theorem timeadd_inday (d : Int) {x s y : Int} (hy : x + s = y) (h0 : 0 ≤ y) (h24 : y < 24) : timeadd 24 (d, x) s = (d, y) := by
  unfold timeadd
  simp only [hy]
  rw [if_neg (Int.not_le.mpr h24), if_neg (Int.not_lt.mpr h0)]

theorem trange_inday (d : Int) {a s : Int} {T : Nat} (hs : 1 ≤ s) (h0 : 0 ≤ a) (h24 : a + (T : Int) * s < 24) (fuel : Nat)
    (hf : T ≤ fuel) :
    trange 24 s (timeadd 24 (d, a + (T : Int) * s) 0) fuel (timeadd 24 (d, a) 0) =
      some ((List.range T).map (fun j : Nat => (d, a + (j : Int) * s))) := by
  have hs0 : (0 : Int) ≤ s := Int.le_of_lt hs
  -- every time of the axis lies inside the day
  have hday : ∀ j : Nat, j ≤ T → 0 ≤ a + (j : Int) * s ∧ a + (j : Int) * s < 24 := fun j hj =>
    ⟨Int.add_nonneg h0 (Int.mul_nonneg (Int.natCast_nonneg j) hs0),
      Int.lt_of_le_of_lt (Int.add_le_add_left (Int.mul_le_mul_of_nonneg_right (Int.ofNat_le.mpr hj) hs0) a) h24⟩
  have ha24 : a < 24 := Int.lt_of_le_of_lt (Int.le_add_of_nonneg_right (Int.mul_nonneg (Int.natCast_nonneg T) hs0)) h24
  have key := Nat.fuel_range (loop := trange 24 s (d, a + (T : Int) * s)) (x := fun j : Nat => (d, a + (j : Int) * s))
    (T := T) (e := 0) (fun fuel i hi => by
      have hsucc : a + (i : Int) * s + s = a + ((i + 1 : Nat) : Int) * s := by
        rw [Int.natCast_succ, Int.add_mul, Int.one_mul, Int.add_assoc]
      have hlt : (i : Int) * s < (T : Int) * s := Int.mul_lt_mul_of_pos_right (Int.ofNat_lt.mpr hi) hs
      have hne : ¬ ((d, a + (i : Int) * s) = (d, a + (T : Int) * s)) := fun h =>
        Int.ne_of_lt hlt (Int.add_left_cancel (Prod.mk.inj h).2)
      rw [trange, if_neg hne, timeadd_inday d hsucc (hday (i + 1) hi).1 (hday (i + 1) hi).2])
    (fun fuel => by cases fuel <;> exact if_pos rfl) fuel hf
  rw [timeadd_inday d (Int.add_zero _) (hday T (Nat.le_refl T)).1 (hday T (Nat.le_refl T)).2,
    timeadd_inday d (Int.add_zero a) h0 ha24]
  simpa only [Int.natCast_zero, Int.zero_mul, Int.add_zero] using key

/-- the offset `q`: `i` whole blocks of a time record (6 words) and `nspec · nl` data records lie between the first time
record and the block of the slab -/
theorem fetch_at {ws : List Word} {h : Hdr} {dt : DT} {i s k q : Nat}
    (hfin : timediff 24 h.fin dt ≤ 0) (hstart : 0 ≤ timediff 24 h.start dt)
    (hi : Int.tdiv (timediff 2400 h.start dt) h.step = i) (hsp : 0 < h.nspec) (hnl : 0 < h.nl)
    (hq : h.dataStart + (s * h.nl + k + i * (h.nspec * h.nl)) * h.padW + (i + 1) * 6 = q)
    (hfit : q + 12 + h.nx * h.ny ≤ ws.length) :
    fetch ws h dt s (k + 1) = some ((ws.drop (q + 12)).take (h.nx * h.ny)) := by
  have hid : Int.fdiv (Int.fdiv ((i : Int) * ((h.nspec * h.nl : Nat) : Int)) (h.nspec : Int)) (h.nl : Int) = (i : Int) := by
    rw [Int.natCast_mul, Int.mul_left_comm, Int.mul_fdiv_cancel_left _ (Int.natCast_ne_zero.mpr (Nat.ne_of_gt hsp)),
      Int.mul_fdiv_cancel _ (Int.natCast_ne_zero.mpr (Nat.ne_of_gt hnl))]
  have hq' : (h.dataStart : Int) + (((s * h.nl + (k + 1 - 1) : Nat) : Int) + (i : Int) * ((h.nspec * h.nl : Nat) : Int)) * (h.padW : Int) +
      ((i : Int) + 1) * 6 = (q : Int) := by
    rw [← hq, Nat.add_sub_cancel]
    norm_cast
  unfold fetch
  rw [if_neg (not_or.mpr ⟨Int.not_lt.mpr hfin, Int.not_lt.mpr hstart⟩)]
  simp only [hi, hid, hq', Int.toNat_natCast]
  have hql : q < ws.length :=
    Nat.lt_of_lt_of_le (Nat.lt_add_of_pos_right (Nat.succ_pos 11)) (Nat.le_trans (Nat.le_add_right _ _) hfit)
  rw [if_neg (not_or.mpr ⟨Int.not_lt.mpr (Int.natCast_nonneg q), Int.not_le.mpr (Int.ofNat_lt.mpr hql)⟩),
    if_neg (Nat.not_lt.mpr hfit)]

theorem read_of_header {ws : List Word} {h : Hdr} (hh : readHeader ws = some h) {T : Nat} (hc : h.count = T)
    (hE : (h.name == nameEMISSIONS) = false) (x : Nat → DT)
    (htr : trange 24 h.step (timeadd 24 h.fin 0) T (timeadd 24 h.start 0) = some ((List.range T).map x))
    (slab : Nat → Nat → Nat → List Word)
    (hf : ∀ i s k, i < T → s < h.nspec → k < h.nl → fetch ws h (x i) s (k + 1) = some (slab i s k)) :
    read ws = some ⟨h.nspec, h.nx, h.ny, h.nl, T, h.species,
      (List.range h.nspec).map fun s => (List.range T).map fun i => (List.range h.nl).map fun k => slab i s k⟩ := by
  have hslabs : ∀ s ∈ List.range h.nspec,
      (((List.range T).map x).mapM (fun dt => (List.range h.nl).mapM (fun ki => fetch ws h dt s (ki + 1)))).map
        (fun got => got ++ List.replicate (T - got.length) (List.replicate h.nl (List.replicate (h.nx * h.ny) (0 : Word)))) =
      some ((List.range T).map fun i => (List.range h.nl).map fun k => slab i s k) := by
    intro s hs
    have e : List.mapM ((fun dt => List.mapM (fun ki => fetch ws h dt s (ki + 1)) (List.range h.nl)) ∘ x) (List.range T) =
        some ((List.range T).map fun i => (List.range h.nl).map fun k => slab i s k) :=
      List.mapM_some _ fun i hi => List.mapM_some (fun k => slab i s k) fun k hk =>
        hf i s k (List.mem_range.mp hi) (List.mem_range.mp hs) (List.mem_range.mp hk)
    rw [List.mapM_map, e]
    simp only [Option.map_some, List.length_map, List.length_range, Nat.sub_self, List.replicate_zero, List.append_nil]
  unfold read
  simp only [hh, hc, Int.toNat_natCast, hE, Bool.false_eq_true, false_and, if_false, htr]
  rw [if_neg (Int.not_lt.mpr (Int.natCast_nonneg T)), List.mapM_some _ hslabs]

/-! ### files with standard headers -/

/-- a gridded file with standard header records whose time axis lies inside one day: the four header markers, the
counts, the characters, the begin/end pair of the file header (`a` .. `a + T·s` hours on day `d`), the first time
record (step `s`) and the size of the first data record.  Nothing is asked of the data blocks except their total
size. -/
structure Std (ws : List Word) (nspec nx ny nz T : Nat) (d a s : Int) : Prop where
  len : ws.length = 103 + 10 * nspec + T * blockWords nspec nz nx ny
  m0 : ws.getD 0 0 = 304
  chars : ((((ws.drop 1).take 10).map int2asc) ++ (((ws.drop 11).take 60).map int2asc)).all chrOk = true
  notE : (((ws.drop 1).take 10).map int2asc == nameEMISSIONS) = false
  notA : (((ws.drop 1).take 10).map int2asc == nameAIRQUALITY) = false
  nspecw : ws.getD 72 0 = nspec
  nspec1 : 1 ≤ nspec
  nspecS : nspec < 2147483648
  sd0 : sint (ws.getD 73 0) = d
  st0 : truncF32 (ws.getD 74 0) = a
  ed0 : sint (ws.getD 75 0) = d
  et0 : truncF32 (ws.getD 76 0) = a + (T : Int) * s
  m1 : ws.getD 78 0 = 60
  nxw : ws.getD 86 0 = nx
  nyw : ws.getD 87 0 = ny
  nzw : ws.getD 88 0 = nz
  nxS : nx < 2147483648
  nyS : ny < 2147483648
  nzS : nz < 2147483648
  nz1 : 1 ≤ nz
  m2 : ws.getD 95 0 = 16
  cx : ws.getD 98 0 = nx
  cy : ws.getD 99 0 = ny
  m3 : ws.getD 101 0 = 40 * nspec
  spchars : (((ws.drop 102).take (10 * nspec)).map int2asc).all chrOk = true
  m4 : ws.getD (103 + 10 * nspec) 0 = 16
  step : timediff 2400 (sint (ws.getD (103 + 10 * nspec + 1) 0), truncF32 (ws.getD (103 + 10 * nspec + 2) 0))
    (sint (ws.getD (103 + 10 * nspec + 3) 0), truncF32 (ws.getD (103 + 10 * nspec + 4) 0)) = s
  s1 : 1 ≤ s
  a0 : 0 ≤ a
  aT : a + (T : Int) * s < 24
  T1 : 1 ≤ T
  m5 : ws.getD (103 + 10 * nspec + 6) 0 = 4 * (11 + nx * ny)

/-- `103 + 10 * nspec` words of header records, 6 of a time record, `13 + nx * ny` of a data record -/
def slabPos (nspec nz nx ny i s k : Nat) : Nat :=
  103 + 10 * nspec + i * blockWords nspec nz nx ny + 6 + (s * nz + k) * (13 + nx * ny)

/-- record `k` of species `s` ends inside the `nspec · nz` records (of `R` words) of a block -/
theorem rec_in_block {nspec nz s k : Nat} (R : Nat) (hs : s < nspec) (hk : k < nz) :
    (s * nz + k) * R + R ≤ nspec * nz * R :=
  Nat.mul_add_le_mul R (Nat.mul_add_lt hs hk)

theorem slabPos_bound {nspec nz T i s k : Nat} (nx ny : Nat) (hi : i < T) (hs : s < nspec) (hk : k < nz) :
    slabPos nspec nz nx ny i s k + 12 + nx * ny ≤ 103 + 10 * nspec + T * blockWords nspec nz nx ny := by
  have hrec := rec_in_block (13 + nx * ny) hs hk
  have hblk := Nat.mul_add_le_mul (blockWords nspec nz nx ny) hi
  have hB : blockWords nspec nz nx ny = 6 + nspec * nz * (13 + nx * ny) := rfl
  unfold slabPos
  omega

/-- what `__readheader` learns from a file with standard headers -/
def stdHdr (ws : List Word) (nspec nx ny nz T : Nat) (d a s : Int) : Hdr :=
  { name := ((ws.drop 1).take 10).map int2asc, nspec := nspec, nx := nx, ny := ny, nl := nz,
    species := Camx.splitEvery 10 nspec (((ws.drop 102).take (10 * nspec)).map int2asc),
    dataStart := 103 + 10 * nspec, start := (d, a), fin := (d, a + (T : Int) * s), step := s, count := T,
    padW := 13 + nx * ny }

def stdView (ws : List Word) (nspec nx ny nz T : Nat) : RecView :=
  { nspec := nspec, nx := nx, ny := ny, nz := nz, nt := T,
    species := Camx.splitEvery 10 nspec (((ws.drop 102).take (10 * nspec)).map int2asc),
    data := (List.range nspec).map (fun si => (List.range T).map (fun i => (List.range nz).map (fun k =>
      (ws.drop (slabPos nspec nz nx ny i si k + 12)).take (nx * ny)))) }

/-- the data of the memory-mapped view arranged as the record reader arranges them: [species][step][layer] -/
def bySpecies (m : MMView) : List (List (List (List Word))) :=
  (List.range m.nspec).map (fun si => m.steps.map (fun st => st.data.getD si []))

/-- the left side is the slab as the memory-mapped reader cuts it out of block `t` -/
theorem mm_slab_eq (ws : List Word) {nspec nz si k : Nat} (nx ny t : Nat) (hsi : si < nspec) (hk : k < nz) :
    ((((((ws.drop (103 + 10 * nspec)).drop (t * blockWords nspec nz nx ny)).take (blockWords nspec nz nx ny)).drop 6).drop
      (si * (nz * (13 + nx * ny)) + k * (13 + nx * ny))).drop 12).take (nx * ny) =
    (ws.drop (slabPos nspec nz nx ny t si k + 12)).take (nx * ny) := by
  have hrec := rec_in_block (13 + nx * ny) hsi hk
  have hfit : 6 + (si * nz + k) * (13 + nx * ny) + 12 + nx * ny ≤ blockWords nspec nz nx ny := by
    unfold blockWords
    omega
  rw [← Nat.mul_assoc, ← Nat.add_mul, List.drop_drop (j := 6), List.drop_drop (i := 12), List.take_drop_take hfit]
  unfold slabPos
  simp only [List.drop_drop, Nat.add_assoc]

theorem nextPos_of_lt {len pos m p : Nat} (hp : pos + m / 4 + 2 = p) (h : p < len) : nextPos len pos m = some p := by
  subst hp
  exact if_pos h

section
variable {ws : List Word} {nspec nx ny nz T : Nat} {d a s : Int} (h : Std ws nspec nx ny nz T d a s)
include h

theorem Std.counts : hNspec ws = nspec ∧ hNx ws = nx ∧ hNy ws = ny ∧ hNz ws = nz :=
  ⟨h.nspecw, h.nxw, h.nyw, (congrArg (max · 1) h.nzw).trans (Nat.max_eq_left h.nz1)⟩

/-- the first time record is not the end of the file -/
theorem Std.lt_length : 103 + 10 * nspec + 6 < ws.length := by
  have hB : 6 < blockWords nspec nz nx ny :=
    Nat.lt_add_of_pos_right (Nat.mul_pos (Nat.mul_pos h.nspec1 h.nz1) (Nat.add_pos_left (by decide) _))
  rw [h.len]
  exact Nat.add_lt_add_left (Nat.lt_of_lt_of_le hB (Nat.le_mul_of_pos_left _ h.T1)) _

theorem fetch_std {i si k : Nat} (hi : i < T) (hsi : si < nspec) (hk : k < nz) :
    fetch ws (stdHdr ws nspec nx ny nz T d a s) (d, a + (i : Int) * s) si (k + 1) =
      some ((ws.drop (slabPos nspec nz nx ny i si k + 12)).take (nx * ny)) := by
  have hs0 : (0 : Int) ≤ s := Int.le_of_lt h.s1
  have hfin : timediff 24 (d, a + (T : Int) * s) (d, a + (i : Int) * s) ≤ 0 := by
    rw [timediff_same_day]
    exact Int.sub_nonpos_of_le (Int.add_le_add_left (Int.mul_le_mul_of_nonneg_right (Int.ofNat_le.mpr hi.le) hs0) a)
  have hstart : 0 ≤ timediff 24 (d, a) (d, a + (i : Int) * s) := by
    rw [timediff_same_day, add_sub_cancel_left]
    exact Int.mul_nonneg (Int.natCast_nonneg i) hs0
  have hn : Int.tdiv (timediff 2400 (d, a) (d, a + (i : Int) * s)) s = i := by
    rw [timediff_same_day, add_sub_cancel_left]
    exact Int.mul_tdiv_cancel _ (Int.ne_of_gt h.s1)
  have hp : 103 + 10 * nspec + (si * nz + k + i * (nspec * nz)) * (13 + nx * ny) + (i + 1) * 6 = slabPos nspec nz nx ny i si k := by
    unfold slabPos blockWords
    ring
  exact fetch_at hfin hstart hn (Nat.zero_lt_of_lt hsi) (Nat.zero_lt_of_lt hk) hp (h.len ▸ slabPos_bound nx ny hi hsi hk)

theorem readHeader_std : readHeader ws = some (stdHdr ws nspec nx ny nz T d a s) := by
  -- the records the reader visits start at words 0, 78, 95, 101, `103 + 10 * nspec` and `109 + 10 * nspec`, each before
  -- the next, and the last inside the file
  have p5 : 103 + 10 * nspec + 6 < ws.length := h.lt_length
  have p4 : 103 + 10 * nspec < ws.length := Nat.lt_of_le_of_lt (Nat.le_add_right _ 6) p5
  have p3 : 101 < ws.length := Nat.lt_of_le_of_lt (Nat.le_add_right_of_le (by decide)) p4
  have p2 : 95 < ws.length := Nat.lt_trans (by decide) p3
  have p1 : 78 < ws.length := Nat.lt_trans (by decide) p2
  -- each test on the length asks for no more than the start of the next record
  have hnot : ∀ {k m}, k ≤ m → m < ws.length → ¬ ws.length < k := fun hk hm =>
    Nat.not_lt.mpr (Nat.le_of_lt (Nat.lt_of_le_of_lt hk hm))
  have l1 : ¬ ws.length < 77 := hnot (by decide) p1
  have l2 : ¬ ws.length < 94 := hnot (by decide) p2
  have l3 : ¬ ws.length < 100 := hnot (by decide) p3
  have l4 : ¬ ws.length < 102 + 10 * nspec := hnot (Nat.add_le_add_right (by decide) _) p4
  have l5 : ¬ ws.length < 103 + 10 * nspec + 5 := hnot (Nat.add_le_add_left (by decide) _) p5
  have h40 : 40 * nspec = 4 * (10 * nspec) := Nat.mul_assoc 4 10 nspec
  have q1 : 40 * nspec % 4 = 0 := h40 ▸ Nat.mul_mod_right 4 _
  have hq : 101 + 40 * nspec / 4 + 2 = 103 + 10 * nspec := by
    rw [h40, Nat.mul_div_cancel_left _ (Nat.succ_pos 3)]
    exact Nat.add_right_comm 101 _ 2
  have hnp1 : nextPos ws.length 0 304 = some 78 := nextPos_of_lt rfl p1
  have hnp2 : nextPos ws.length 78 60 = some 95 := nextPos_of_lt rfl p2
  have hnp3 : nextPos ws.length 95 16 = some 101 := nextPos_of_lt rfl p3
  have hnp4 : nextPos ws.length 101 (40 * nspec) = some (103 + 10 * nspec) := nextPos_of_lt hq p4
  have hnp5 : nextPos ws.length (103 + 10 * nspec) 16 = some (103 + 10 * nspec + 6) := nextPos_of_lt rfl p5
  have q2 : 4 * (11 + nx * ny) % 4 = 0 := Nat.mul_mod_right _ _
  have hpad : 4 * (11 + nx * ny) / 4 + 2 = 13 + nx * ny := by
    rw [Nat.mul_div_cancel_left _ (Nat.succ_pos 3)]
    exact Nat.add_right_comm 11 _ 2
  have hsn : sint (nspec : Word) = (nspec : Int) := sint_small h.nspecS
  have hsx : sint (nx : Word) = (nx : Int) := sint_small h.nxS
  have hsy : sint (ny : Word) = (ny : Int) := sint_small h.nyS
  have hsz : sint (nz : Word) = (nz : Int) := sint_small h.nzS
  have hs0 : ¬ s = 0 := Int.ne_of_gt h.s1
  have hcount : ∀ e : Int, Int.fdiv (timediff e (d, a) (d, a + (T : Int) * s)) s = (T : Int) := by
    intro e
    rw [timediff_same_day, add_sub_cancel_left]
    exact Int.mul_fdiv_cancel _ hs0
  have hn1 : ¬ ((nspec : Int) < 1) := Int.not_lt.mpr (Int.ofNat_le.mpr h.nspec1)
  have hx0 : ¬ (nx : Int) < 0 := Int.not_lt.mpr (Int.natCast_nonneg nx)
  have hy0 : ¬ (ny : Int) < 0 := Int.not_lt.mpr (Int.natCast_nonneg ny)
  have hz0 : ¬ (nz : Int) < 0 := Int.not_lt.mpr (Int.natCast_nonneg nz)
  unfold readHeader
  simp only [h.m0, h.nspecw, h.sd0, h.st0, h.ed0, h.et0, hnp1, h.m1, hnp2, h.m2, hnp3, h.m3, hnp4, h.m4, hnp5, h.m5,
    hsn, hsx, hsy, hsz, h.nxw, h.nyw, h.nzw, h.cx, h.cy, h.chars, h.spchars, h.step, h.notE, h.notA,
    Nat.reduceAdd, Nat.reduceMod, Int.toNat_natCast, not_true_eq_false, if_false, ne_eq, or_self, Bool.false_eq_true,
    l1, l2, l3, l4, l5, q1, q2, hs0, hn1, hx0, hy0, hz0, hcount, hpad, stdHdr]

theorem read_std : read ws = some (stdView ws nspec nx ny nz T) :=
  read_of_header (readHeader_std h) rfl h.notE (fun j : Nat => (d, a + (j : Int) * s))
    (trange_inday d h.s1 h.a0 h.aT T (Nat.le_refl T))
    (fun i si k => (ws.drop (slabPos nspec nz nx ny i si k + 12)).take (nx * ny)) (fun _ _ _ => fetch_std h)

theorem decodeMM_std : decodeMM ws 0 = .ok (mkView ws T) := by
  obtain ⟨eN, eX, eY, eZ⟩ := h.counts
  refine decodeMM_of_length ws T h.T1 ?_
  rw [h.len, hOff, hBlk, dataOffset, eN, eX, eY, eZ]

theorem mkView_bySpecies : bySpecies (mkView ws T) = (stdView ws nspec nx ny nz T).data := by
  obtain ⟨eN, eX, eY, eZ⟩ := h.counts
  unfold bySpecies mkView stdView hOff hBlk dataOffset
  simp only [eN, eX, eY, eZ, List.map_map]
  apply List.map_congr_left
  intro si hsi
  have hsi' : si < nspec := List.mem_range.mp hsi
  apply List.map_congr_left
  intro t ht
  simp only [Function.comp, readStep]
  rw [List.getD_of_lt _ _ (by rw [List.length_map, List.length_range]; exact hsi'), List.getElem_map, List.getElem_range]
  apply List.map_congr_left
  intro k hk
  exact mm_slab_eq ws nx ny t hsi' (List.mem_range.mp hk)

end

/-! ### an encoded content inside one day is such a file -/

theorem int2asc_charWord {c : Nat} (h : c < 128) : int2asc (charWord c) = (c : Int) := by
  -- over `Nat`: `omega` does not see through `Word`
  have hw : @LT.lt Nat _ (c * 16777216 + 2105376) 2147483648 := by omega
  -- the character and three blanks; each division shifts one blank out
  have hsplit : ((c * 16777216 + 2105376 : Nat) : Int) = (((c : Int) * 256 + 32) * 256 + 32) * 256 + 32 := by omega
  have hstep : ∀ x : Int, Int.fdiv (x * 256 + 32 - 32) 256 = x := fun x => by
    rw [Int.add_sub_cancel, Int.mul_fdiv_cancel _ (by decide)]
  unfold int2asc charWord
  rw [sint_small hw, hsplit, hstep, hstep, hstep]

theorem map_int2asc_chars {l : List Nat} (h : ∀ c ∈ l, c < 128) : (chars l).map int2asc = l.map Int.ofNat := by
  rw [chars, List.map_map]
  refine List.map_congr_left fun c hc => ?_
  rw [Function.comp_apply, int2asc_charWord (h c hc)]
  rfl

theorem all_chrOk_ofNat {l : List Nat} (h : ∀ c ∈ l, c < 128) : (l.map Int.ofNat).all chrOk = true := by
  rw [List.all_eq_true]
  intro x hx
  obtain ⟨c, hc, rfl⟩ := List.mem_map.mp hx
  have hc128 := h c hc
  unfold chrOk
  simp only [Bool.and_eq_true, decide_eq_true_eq]
  exact ⟨Int.natCast_nonneg c, show (c : Int) ≤ 1114111 by omega⟩

theorem splitEvery_ofNat {species : List (List Nat)} (h : ∀ s ∈ species, s.length = 10) :
    splitEvery 10 species.length ((species.map (·.map Int.ofNat)).flatten) = species.map (·.map Int.ofNat) := by
  have := splitEvery_flatten_uniform (cs := species.map (·.map Int.ofNat)) (k := 10) (by
    intro c hc
    obtain ⟨s, hs, rfl⟩ := List.mem_map.mp hc
    rw [List.length_map, h s hs])
  rwa [List.length_map] at this

theorem flatten_map_int2asc {species : List (List Nat)} (h : ∀ s ∈ species, ∀ c ∈ s, c < 128) :
    ((species.map chars).flatten).map int2asc = (species.map (·.map Int.ofNat)).flatten := by
  rw [List.map_flatten, List.map_map]
  exact congrArg List.flatten (List.map_congr_left fun s hs => map_int2asc_chars (h s hs))

/-- a gridded content whose time axis lies inside one day (`a`, `a + s`, … hours of day `d`), with plain ASCII names and
a NAME other than EMISSIONS / AIRQUALITY -/
structure OneDay (f : Uamiv) (d a s : Int) : Prop where
  wf : WF f
  asciiName : ∀ c ∈ f.name, c < 128
  asciiNote : ∀ c ∈ f.note, c < 128
  asciiSpecies : ∀ sp ∈ f.species, ∀ c ∈ sp, c < 128
  notE : (f.name.map Int.ofNat == nameEMISSIONS) = false
  notA : (f.name.map Int.ofNat == nameAIRQUALITY) = false
  nspec1 : 1 ≤ f.nspec
  nspecS : f.nspec < 2147483648
  nxS : f.nx < 2147483648
  nyS : f.ny < 2147483648
  nzS : f.nz < 2147483648
  nz1 : 1 ≤ f.nz
  sd0 : sint f.ibdate = d
  st0 : truncF32 f.btime = a
  ed0 : sint f.iedate = d
  et0 : truncF32 f.etime = a + (f.steps.length : Int) * s
  first : ∃ st rest, f.steps = st :: rest ∧
    timediff 2400 (sint st.ibdate, truncF32 st.btime) (sint st.iedate, truncF32 st.etime) = s
  s1 : 1 ≤ s
  a0 : 0 ≤ a
  aT : a + (f.steps.length : Int) * s < 24

/-- the first data record has `11 + nx·ny` words: the reader takes its record stride from that record's marker (`Std.m5`) -/
theorem bodyWords_head {f : Uamiv} (h : WF f) (hsp : 1 ≤ f.nspec) (hnz : 1 ≤ f.nz) {st : Step} {rest : List Step}
    (hs : f.steps = st :: rest) :
    ∃ sp d, (dataRec sp d).length = 11 + f.nx * f.ny ∧
      ∃ tail, bodyWords f = frame [st.ibdate, st.btime, st.iedate, st.etime] ++ (frame (dataRec sp d) ++ tail) := by
  obtain ⟨hdl, hlay⟩ := h.steps st (hs ▸ List.mem_cons_self)
  obtain ⟨sp0, spR, hsp0⟩ := List.exists_cons_of_length_pos (l := f.species) hsp
  obtain ⟨lay0, layR, hd0⟩ := List.exists_cons_of_length_pos (l := st.data) (by rw [hdl]; exact hsp)
  obtain ⟨hl0, hcells⟩ := hlay lay0 (hd0 ▸ List.mem_cons_self)
  obtain ⟨d0, dR, hlay0⟩ := List.exists_cons_of_length_pos (l := lay0) (by rw [hl0]; exact hnz)
  refine ⟨sp0, d0, ?_, ?_⟩
  · rw [dataRec_length sp0 d0 (h.species sp0 (hsp0 ▸ List.mem_cons_self)), hcells d0 (hlay0 ▸ List.mem_cons_self)]
  · simp only [bodyWords, hs, List.map_cons, List.flatten_cons, stepRecords, hsp0, hd0, hlay0, List.zip_cons_cons,
      List.flatMap_cons, speciesRecords, encodeRecs_cons, List.cons_append, List.append_assoc]
    exact ⟨_, rfl⟩

theorem std_of_oneDay {f : Uamiv} {d a s : Int} (h : OneDay f d a s) :
    Std f.encode f.nspec f.nx f.ny f.nz f.steps.length d a s := by
  have hwf := h.wf
  obtain ⟨st0, rest, hsteps, hfirst⟩ := h.first
  obtain ⟨sp0, d0, hD0, tail, hbody⟩ := bodyWords_head hwf h.nspec1 h.nz1 hsteps
  have hsz := hdrRecs_sizes f hwf
  simp only [hdrRecs, Boundary.hdrSizes, List.map_cons, List.map_nil, List.cons.injEq, and_true] at hsz
  obtain ⟨hR, hG, -, hSP⟩ := hsz
  have hcn : (chars f.name).length = 10 := by rw [chars_length, hwf.name]
  have hcno : (chars f.note).length = 60 := by rw [chars_length, hwf.note]
  obtain ⟨hs1, -, -, hspw, hs5⟩ := encode_slices f hwf
  have hnm : (f.encode.drop 1).take 10 = chars f.name := by
    have := congrArg (List.take 10) hs1
    rwa [List.take_take, List.append_assoc, List.take_left' hcn] at this
  have hnt : (f.encode.drop 11).take 60 = chars f.note := by
    have := congrArg (fun l => (l.drop 10).take 60) hs1
    rwa [List.take_drop_take (by decide), List.drop_drop, List.append_assoc, List.drop_left' hcn, List.take_left' hcno] at this
  -- the four header records at their positions; the first time record and the first data record open the body
  have r0 : f.encode.drop 0 = frame (chars f.name ++ chars f.note ++ [f.itzon, f.nspec, f.ibdate, f.btime, f.iedate, f.etime]) ++
      (frame f.grid ++ (frame [1, 1, f.nx, f.ny] ++ (frame (f.species.map chars).flatten ++ bodyWords f))) := by
    rw [List.drop_zero, encode_eq]
    simp only [hdrRecs, encodeRecs, List.map_cons, List.map_nil, List.flatten_cons, List.flatten_nil, List.append_nil,
      List.append_assoc]
  have r1 := drop_next r0 hR
  have r2 := drop_next r1 hG
  have r3 := drop_next r2 (n := 4) rfl
  have r4 : f.encode.drop (103 + 10 * f.nspec) =
      frame [st0.ibdate, st0.btime, st0.iedate, st0.etime] ++ (frame (dataRec sp0 d0) ++ tail) := hs5.trans hbody
  have r5 := drop_next r4 (n := 4) rfl
  -- word positions as `getD_payload` states them; for a numeral `k` they evaluate (`0 + 1 + (70 + 1)` is word 72)
  have hw : ∀ k, k < 6 → f.encode.getD (0 + 1 + (70 + k)) 0 =
      [f.itzon, f.nspec, f.ibdate, f.btime, f.iedate, f.etime].getD k 0 := fun k hk =>
    (getD_payload r0 (by rw [hR]; exact Nat.add_lt_add_left hk 70)).trans (hdr_getD f hwf k)
  have hg : ∀ k, k < 15 → f.encode.getD (0 + (76 + 2) + 1 + k) 0 = f.grid.getD k 0 := fun k hk => getD_payload r1 (hG ▸ hk)
  exact
    { len := encode_length f hwf
      m0 := (getD_marker r0).trans (by rw [hR])
      chars := by
        rw [hnm, hnt, map_int2asc_chars h.asciiName, map_int2asc_chars h.asciiNote, ← List.map_append]
        exact all_chrOk_ofNat (fun c hc => (List.mem_append.mp hc).elim (h.asciiName c) (h.asciiNote c))
      notE := by rw [hnm, map_int2asc_chars h.asciiName]; exact h.notE
      notA := by rw [hnm, map_int2asc_chars h.asciiName]; exact h.notA
      nspecw := hw 1 (by decide)
      nspec1 := h.nspec1, nspecS := h.nspecS
      sd0 := (congrArg sint (hw 2 (by decide))).trans h.sd0
      st0 := (congrArg truncF32 (hw 3 (by decide))).trans h.st0
      ed0 := (congrArg sint (hw 4 (by decide))).trans h.ed0
      et0 := (congrArg truncF32 (hw 5 (by decide))).trans h.et0
      m1 := (getD_marker r1).trans (by rw [hG])
      nxw := hg 7 (by decide)
      nyw := hg 8 (by decide)
      nzw := hg 9 (by decide)
      nxS := h.nxS, nyS := h.nyS, nzS := h.nzS, nz1 := h.nz1
      m2 := getD_marker r2
      cx := getD_payload r2 (i := 2) (by decide : 2 < 4)
      cy := getD_payload r2 (i := 3) (by decide : 3 < 4)
      m3 := (getD_marker r3).trans (by rw [hSP, ← Nat.mul_assoc])
      spchars := by
        rw [hspw, flatten_map_int2asc h.asciiSpecies, ← List.map_flatten]
        exact all_chrOk_ofNat (fun c hc => by
          obtain ⟨sp, hsp', hc'⟩ := List.mem_flatten.mp hc
          exact h.asciiSpecies sp hsp' c hc')
      m4 := getD_marker r4
      step := by
        rw [getD_payload r4 (i := 0) (by decide : 0 < 4), getD_payload r4 (i := 1) (by decide : 1 < 4),
          getD_payload r4 (i := 2) (by decide : 2 < 4), getD_payload r4 (i := 3) (by decide : 3 < 4)]
        exact hfirst
      s1 := h.s1, a0 := h.a0, aT := h.aT
      T1 := by rw [hsteps]; exact Nat.succ_le_succ (Nat.zero_le _)
      m5 := (getD_marker r5).trans (by rw [hD0]) }

/-- what the content says the record reader should present: counts, names, and every slab by species, step, layer -/
def recViewOf (f : Uamiv) : RecView :=
  { nspec := f.nspec, nx := f.nx, ny := f.ny, nz := f.nz, nt := f.steps.length,
    species := f.species.map (·.map Int.ofNat),
    data := (List.range f.nspec).map (fun si => f.steps.map (fun st => st.data.getD si [])) }

end UamivRead
