import PncProofs.C09
import PncProofs.C13

/-!
# C08 — CAMx binary write/read round trip

The gridded round trip (`roundtrip`), the date and time conventions of the gridded files (`date_roundtrip`,
`hours_roundtrip`, `hour_bits_roundtrip`), and read-then-rewrite for the other formats.
-/
namespace Props.C08
open Words Camx

/-- **C08 (data, header, species, flags words).** For every well-formed content — any species list
(names of 10 characters), any nx, ny, any nz ≥ 1, any number ≥ 1 of time steps, any payload words
(every float32 bit pattern, denormals and -0 included) — the library's fixed-stride reader applied
to the written bytes presents exactly the written content: identical data words for every species,
layer and step, identical begin/end date and time words, grid header and species order. -/
theorem roundtrip (f : Uamiv) (h : WF f) (hnz : 1 ≤ f.nz) (hnt : f.steps ≠ []) :
    decodeMM f.encode 0 = .ok (viewOf f) := decodeMM_encode f h hnz hnt

/-- the independent decoder and the memory-mapped reader agree on every encoded file -/
theorem readers_agree_on_encodings (f : Uamiv) (h : WF f) (hnz : 1 ≤ f.nz) (hnt : f.steps ≠ []) :
    refDecode f.encode = some f ∧ decodeMM f.encode 0 = .ok (viewOf f) :=
  ⟨Props.C09.refDecode_encode f h, decodeMM_encode f h hnz hnt⟩

/-- **C08 (dates).** The two-digit-year date stored in the file decodes back to the original
YYYYJJJ for every date from 1970 to 2069 (day, year, leap-day and century roll-overs are ordinary
instances). -/
theorem date_roundtrip (d : Nat) (h1 : 1970000 ≤ d) (h2 : d < 2070000) :
    decDates [((encDate d : Nat) : Int)] = [(d : Int)] := by
  rw [encDate_eq_mod (Nat.le_trans (by decide) h1)]
  unfold decDates
  simp only [List.map_cons, List.map_nil, List.cons.injEq, and_true]
  -- `d % 100000` is `d - 1900000` from 70000 on and `d - 2000000` below: the two halves of the decoder's window
  split <;> omega

/-- **C08 (times).** Whole hours stored as float hours come back as HHMMSS = hour·10000, whatever
the set of hours in the file (the ×100 loop of `ConvertCAMxTime` runs exactly twice unless all
hours are zero). -/
theorem hours_roundtrip (hs : List Int) (h : ∀ t ∈ hs, 0 ≤ t ∧ t ≤ 23) :
    scaleTimes 8 hs = hs.map (· * 10000) := by
  by_cases hz : ∀ t ∈ hs, t = 0
  · have h0 : ∀ t ∈ hs, t * 10000 = t := fun t ht => by
      rw [hz t ht]
      rfl
    rw [scaleTimes, if_pos (List.all_eq_true.mpr fun t ht => beq_iff_eq.mpr (hz t ht)), List.map_congr_left h0,
      List.map_id']
  · -- some hour is between 1 and 23: two rounds bring it to 10000 or more
    obtain ⟨t0, ht0, hne⟩ := not_forall₂.mp hz
    have g0 : 1 ≤ t0 := Int.lt_iff_le_and_ne.mpr ⟨(h t0 ht0).1, Ne.symm hne⟩
    have g1 : 1 ≤ t0 * 100 := Int.mul_pos g0 (by decide)
    have g2 : 10000 ≤ t0 * 100 * 100 :=
      Int.mul_le_mul_of_nonneg_right (Int.mul_le_mul_of_nonneg_right g0 (by decide)) (by decide)
    have hb : ∀ t ∈ hs, t < 10000 ∧ t * 100 < 10000 := fun t ht =>
      ⟨Int.lt_of_le_of_lt (h t ht).2 (by decide),
        Int.lt_of_le_of_lt (Int.mul_le_mul_of_nonneg_right (h t ht).2 (by decide)) (by decide)⟩
    have hm1 : t0 * 100 ∈ hs.map (· * 100) := List.mem_map_of_mem ht0
    have hm2 : t0 * 100 * 100 ∈ (hs.map (· * 100)).map (· * 100) := List.mem_map_of_mem hm1
    rw [scaleTimes_step 7 hs t0 ht0 g0 (fun t ht => (hb t ht).1),
      scaleTimes_step 6 _ _ hm1 g1 (List.forall_mem_map.mpr fun t ht => (hb t ht).2),
      scaleTimes_stop 6 _ _ hm2 g2, List.map_map]
    exact List.map_congr_left fun t _ => Int.mul_assoc t 100 100

/-- hours 0..23 survive float32 storage and the integer cast -/
theorem hour_bits_roundtrip : ∀ n : Fin 24, truncF32 (f32OfNat n.val) = (n.val : Int) := by decide

/-- non-vacuity: the example file of C09 meets the hypotheses of `roundtrip` -/
example : 1 ≤ Props.C09.exFile.nz ∧ Props.C09.exFile.steps ≠ [] ∧
    decodeMM Props.C09.exFile.encode 0 = .ok (viewOf Props.C09.exFile) := by
  have w : WF Props.C09.exFile := ⟨by decide +kernel, by decide +kernel, by decide +kernel, by decide +kernel, by decide +kernel⟩
  have hnz : 1 ≤ Props.C09.exFile.nz := by decide +kernel
  have hnt : Props.C09.exFile.steps ≠ [] := by decide +kernel
  exact ⟨hnz, hnt, roundtrip Props.C09.exFile w hnz hnt⟩

/-! ### the other CAMx formats -/

/-- **write then read (slab formats)**: what the memory-mapped reader presents for the bytes the writer
produces is the content that was written — same number of steps and layers, time flags and cells of every
variable — for every well-formed content of at least two steps, any grid, layer count and payload. Writing
that content again produces the same bytes because the encoder is a function of the content alone. -/
theorem slab_roundtrip (k : Slab.Kind) (f : Slab.SFile) (h : Props.C13.WF f) :
    Slab.mmDecode k f.cells (Slab.encode f) = Slab.viewOf k f ∧
    parseRecords (Slab.encode f).length (Slab.encode f) = some (Slab.rows f) :=
  ⟨Props.C13.mm_decode_encode k f h, Props.C09.slab_tiles f⟩

/-- the shape of the round trips below: the reader returns the written content, so writing what was read gives the
same bytes -/
theorem roundtrip_of_read {α β} {read : β → Option α} {enc : α → β} {f : α} (h : read (enc f) = some f) :
    read (enc f) = some f ∧ ∀ g, read (enc f) = some g → enc g = enc f :=
  ⟨h, fun g hg => by
    rw [h] at hg
    cases hg
    rfl⟩

/-- **C08 (landuse files).** Writing any well-formed landuse content (either style, 11 or 26 categories, up to two of
the optional fields) and reading it back gives the same content, and writing what was read again gives the same
bytes. -/
theorem landuse_roundtrip (cells : Nat) (f : Landuse.LFile) (h : Landuse.WF cells f) :
    Landuse.read cells (Landuse.write f) = some f ∧
    ∀ g, Landuse.read cells (Landuse.write f) = some g → Landuse.write g = Landuse.write f :=
  roundtrip_of_read (Landuse.read_write cells f h)

/-- **C08 (wind files).** Reading any well-formed wind file (any number of steps, layers, either header variant) gives
its content, and writing what was read gives the same bytes. -/
theorem wind_roundtrip (cells nz h : Nat) (steps : List Wind.WStep) (w : Wind.WFw cells nz h steps) :
    Wind.read cells (Wind.encode steps) = some steps ∧
    ∀ g, Wind.read cells (Wind.encode steps) = some g → Wind.encode g = Wind.encode steps :=
  roundtrip_of_read (Wind.read_encode cells nz h steps w)

/-- **C08 (cloud/rain files).** -/
theorem cloud_rain_roundtrip (nv : Nat) (f : CloudRain.CFile) (w : CloudRain.WFc nv f) :
    CloudRain.read (CloudRain.encode f) = some f ∧
    ∀ g, CloudRain.read (CloudRain.encode f) = some g → CloudRain.encode g = CloudRain.encode f :=
  roundtrip_of_read (CloudRain.read_encode nv f w)

/-- **C08 (lateral boundary files).** -/
theorem boundary_roundtrip (nspec nx ny nz : Nat) (f : Boundary.BFile) (w : Boundary.WFb nspec nx ny nz f) :
    Boundary.read (Boundary.encode f) = some f ∧
    ∀ g, Boundary.read (Boundary.encode f) = some g → Boundary.encode g = Boundary.encode f :=
  roundtrip_of_read (Boundary.read_encode nspec nx ny nz f w)

end Props.C08
