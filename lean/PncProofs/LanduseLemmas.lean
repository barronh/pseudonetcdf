import PncModel.Camx.Landuse
import PncProofs.WordsLemmas

/-! The landuse format (`PncModel/Camx/Landuse.lean`): what the writer emits (sizes, numbers of records), positional
reads of it, and the reader undoes the writer. -/
namespace Landuse
open Words

def FieldsOk (cells : Nat) (l : List (List Word × List Word)) : Prop := ∀ p ∈ l, p.1.length = 2 ∧ p.2.length = cells

theorem lucat_length (n : Nat) : (lucatKey n).length = 2 := rfl

theorem field_length (ns : Bool) (k d : List Word) (hk : k.length = 2) :
    (encodeRecs (field ns k d)).length = fieldSize ns d.length := by
  cases ns
  · rw [field, if_neg Bool.false_ne_true, encodeRecs_cons, encodeRecs_nil, List.append_nil, frame_length, fieldSize,
      if_neg Bool.false_ne_true, Nat.zero_add]
  · rw [field, if_pos rfl, encodeRecs_cons, encodeRecs_cons, encodeRecs_nil, List.append_nil, List.length_append,
      frame_length, frame_length, hk, fieldSize, if_pos rfl]
    omega

theorem fieldsOf_length (ns : Bool) (cells : Nat) (l : List (List Word × List Word)) (h : FieldsOk cells l) :
    (encodeRecs (fieldsOf ns l)).length = l.length * fieldSize ns cells := by
  induction l with
  | nil => exact (Nat.zero_mul _).symm
  | cons p rest ih =>
    have hp := h p List.mem_cons_self
    rw [fieldsOf, encodeRecs_append, List.length_append, field_length ns p.1 p.2 hp.1, hp.2,
      ih fun q hq => h q (List.mem_cons_of_mem _ hq), List.length_cons, Nat.succ_mul, Nat.add_comm]

theorem field_count (ns : Bool) (k d : List Word) : (field ns k d).length = if ns then 2 else 1 := by
  cases ns
  · rfl
  · rfl

theorem fieldsOf_count (ns : Bool) (l : List (List Word × List Word)) :
    (fieldsOf ns l).length = (if ns then 2 else 1) * l.length := by
  induction l with
  | nil => rfl
  | cons p rest ih => rw [fieldsOf, List.length_append, field_count, ih, List.length_cons, Nat.mul_succ, Nat.add_comm]

theorem records_count (f : LFile) : (records f).length = (if f.newstyle then 2 else 1) * (1 + (optRecs f).length) := by
  rw [records, List.length_append, field_count, fieldsOf_count, Nat.mul_add, Nat.mul_one]

theorem cut_frame (p rest : List Word) (n : Nat) (hn : p.length = n) : cut n (frame p ++ rest) = (p, rest) := by
  subst hn
  rw [cut, payload_frame, drop_frame]

theorem cutField_field (ns : Bool) (k d more : List Word) (n : Nat) (hk : k.length = 2) (hd : d.length = n) :
    cutField ns n (encodeRecs (field ns k d) ++ more) = ((if ns then k else [], d), more) := by
  cases ns
  · simp only [field, Bool.false_eq_true, if_false, cutField, encodeRecs_cons, encodeRecs_nil, List.append_nil,
      cut_frame d more n hd]
  · simp only [field, if_true, cutField, encodeRecs_cons, encodeRecs_nil, List.append_nil, List.append_assoc,
      cut_frame k (frame d ++ more) 2 hk, cut_frame d more n hd]

theorem cutFields_fieldsOf (ns : Bool) (cells : Nat) (l : List (List Word × List Word)) (h : FieldsOk cells l) :
    cutFields ns cells l.length (encodeRecs (fieldsOf ns l)) = l.map (fun p => (if ns then p.1 else [], p.2)) := by
  induction l with
  | nil => rfl
  | cons p rest ih =>
    have hp := h p List.mem_cons_self
    rw [fieldsOf, encodeRecs_append, List.length_cons, cutFields, cutField_field ns p.1 p.2 _ cells hp.1 hp.2,
      ih fun q hq => h q (List.mem_cons_of_mem _ hq)]
    rfl

theorem nopt_spec (ns : Bool) (nland cells j : Nat) (hj : j ≤ 2) :
    nopt ns nland cells (fieldSize ns (nland * cells) + j * fieldSize ns cells) = some j := by
  have hpos : 0 < fieldSize ns cells := Nat.succ_pos _
  unfold nopt
  generalize fieldSize ns (nland * cells) = fl
  generalize fieldSize ns cells = ot at hpos ⊢
  match j, hj with
  | 0, _ => rw [Nat.zero_mul, Nat.add_zero, if_pos rfl]
  | 1, _ => rw [Nat.one_mul, if_neg (by omega), if_pos rfl]
  | 2, _ => rw [if_neg (by omega), if_neg (by omega), if_pos rfl]

theorem optRecs_fieldsOk (cells : Nat) (f : LFile) (h : WF cells f) : FieldsOk cells (optRecs f) := by
  obtain ⟨_, _, h1, h2, h3, _⟩ := h
  intro p hp
  simp only [optRecs, List.mem_append, Option.mem_toList, Option.map_eq_some_iff] at hp
  rcases hp with (⟨d, hd, rfl⟩ | ⟨d, hd, rfl⟩) | ⟨d, hd, rfl⟩
  · exact ⟨rfl, h1 d hd⟩
  · exact ⟨rfl, h2 d hd⟩
  · exact ⟨rfl, h3 d hd⟩

theorem write_eq (f : LFile) :
    write f = encodeRecs (field f.newstyle (lucatKey f.nland) f.fland) ++ encodeRecs (fieldsOf f.newstyle (optRecs f)) := by
  simp only [write, records, encodeRecs_append]

theorem write_length (cells : Nat) (f : LFile) (h : WF cells f) :
    (write f).length = fieldSize f.newstyle (f.nland * cells) + (optRecs f).length * fieldSize f.newstyle cells := by
  rw [write_eq, List.length_append, field_length _ _ _ (lucat_length _), fieldsOf_length _ cells _ (optRecs_fieldsOk cells f h), h.2.1]

theorem detect_write (cells : Nat) (f : LFile) (h : WF cells f) : detect (write f) = (f.newstyle, f.nland) := by
  obtain ⟨hc, hfl, -, -, -, -, hnew, hold⟩ := h
  unfold detect
  rw [write_eq]
  cases hns : f.newstyle
  · obtain ⟨h11, -, -, hk1, hk2⟩ := hold hns
    rw [field, if_neg Bool.false_ne_true, encodeRecs_cons, List.append_assoc,
      take_payload_frame _ _ (by rw [hfl, h11]; omega), if_neg hk1, if_neg hk2, h11]
  · rw [field, if_pos rfl, encodeRecs_cons, List.append_assoc, take_payload_frame _ _ (Nat.le_refl 2)]
    rcases hnew hns with h11 | h26
    · rw [h11]
      rfl
    · rw [h26]
      rfl

theorem keyLAI_ne_keyVAR1 : keyLAI ≠ keyVAR1 := by decide

theorem keyTOPO_ne_keyVAR1 : keyTOPO ≠ keyVAR1 := by decide

theorem keyTOPO_ne_keyLAI : keyTOPO ≠ keyLAI := by decide

/-- holds because the three keys differ and the writer emits each optional record at most once -/
theorem assign_optRecs (ns : Bool) (nland : Nat) (fl : List Word) (v1 la tp : Option (List Word)) :
    assign ⟨ns, nland, fl, none, none, none⟩ (optRecs ⟨ns, nland, fl, v1, la, tp⟩) = some ⟨ns, nland, fl, v1, la, tp⟩ := by
  cases v1 <;> cases la <;> cases tp <;> simp [optRecs, assign, keyLAI_ne_keyVAR1, keyTOPO_ne_keyVAR1, keyTOPO_ne_keyLAI]

/-- **landuse round trip.** For every well-formed content — either style, 11 or 26 categories, any grid, any
subset of at most two of the optional fields, any payload words — the reader applied to the writer's bytes
(with the caller's rows x columns) presents exactly the content that was written. -/
theorem read_write (cells : Nat) (f : LFile) (h : WF cells f) : read cells (write f) = some f := by
  have hdet := detect_write cells f h
  have hlen := write_length cells f h
  have hko := optRecs_fieldsOk cells f h
  obtain ⟨hc, hfl, _, _, _, hn2, hnew, hold⟩ := h
  unfold read
  simp only [hdet, hlen, nopt_spec f.newstyle f.nland cells _ hn2]
  rw [write_eq, cutField_field f.newstyle (lucatKey f.nland) f.fland _ (f.nland * cells) (lucat_length _) hfl]
  simp only
  rw [cutFields_fieldsOf f.newstyle cells (optRecs f) hko]
  obtain ⟨ns, nland, fl, v1, la, tp⟩ := f
  cases ns
  · obtain ⟨_, hv, hl, _, _⟩ := hold rfl
    simp only at hv hl
    subst hv
    subst hl
    cases tp <;> simp [optRecs, assignOld]
  · simp only [if_true]
    have : (optRecs ⟨true, nland, fl, v1, la, tp⟩).map (fun p => (p.1, p.2)) = optRecs ⟨true, nland, fl, v1, la, tp⟩ := by
      simp
    rw [this]
    exact assign_optRecs true nland fl v1 la tp

/-- non-vacuity of `WF`: a new-style 26-category file with LAI and TOPO on a 1 x 2 grid, and an old-style file with TOPO -/
example : WF 2 ⟨true, 26, List.replicate 52 7, none, some [1, 2], some [3, 4]⟩ ∧
    WF 1 ⟨false, 11, List.replicate 11 7, none, none, some [9]⟩ := by
  unfold WF
  decide +kernel

end Landuse
