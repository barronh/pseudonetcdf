import PncProofs.ListLemmas
import PncProofs.ArlLemmas
import PncProofs.C20
import PncProofs.InterpLemmas
import PncProofs.SigmaLemmas
import PncProofs.C17
import PncProofs.Val2idxLemmas
import PncProofs.C16
import PncProofs.C15
import PncProofs.CalLemmas
import PncProofs.C12
import PncProofs.ArrLemmas
import PncProofs.FileLemmas
import PncProofs.ZipLemmas
import PncProofs.C02
import PncProofs.FiberLemmas
import PncProofs.C03
import PncProofs.C04
import PncProofs.WordsLemmas
import PncProofs.CamxLemmas
import PncProofs.UamivLemmas
import PncProofs.C09
import PncProofs.C14
import PncProofs.C08
import PncProofs.NamesLemmas
import PncProofs.C06
import PncProofs.C01
import PncProofs.StackLemmas
import PncProofs.SliceLemmas
import PncProofs.C01Files
import PncProofs.C01Seq
import PncProofs.C02Files
import PncProofs.C04Split
import PncProofs.C05
import PncProofs.IoapiLemmas
import PncProofs.C10
import PncProofs.C11
import PncProofs.C07
import PncProofs.C19
import PncProofs.C18
import PncProofs.C13
import PncProofs.WindLemmas
import PncProofs.CloudRainLemmas
import PncProofs.BoundaryLemmas
import PncProofs.UamivReadLemmas
import PncProofs.WindRecLemmas
import PncProofs.C04SliceStack
import PncProofs.C03Order
import PncProofs.LanduseLemmas
import PncProofs.SlabReadLemmas
